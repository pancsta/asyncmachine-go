/- Code generated by amextract from /repo on every run; DO NOT EDIT.
   One obligation per exported schema (`ok_…`) and per mutually-Removing group (`grp_…`). The list in
   an `ok_…` is the certificate of `GenSchema.check_of_pos`: the position of each typed name among
   the schema's keys (plus the built-in Exception when the schema does not define it); `rfl` checks
   it against `typed`, the kernel decides the rest. -/
import AmVerif.Generated.Schemas
import AmVerif.Lemmas.SchemaCheck
namespace Am.Gen

theorem ok_examples_arpc_states_ExampleSchema : examples_arpc_states_ExampleSchema.check = true :=
  examples_arpc_states_ExampleSchema.check_of_pos [4, 3, 0, 1, 2] rfl (by decide +kernel)
theorem ok_examples_basic_states_Schema : examples_basic_states_Schema.check = true :=
  examples_basic_states_Schema.check_of_pos [3, 2, 0, 1] rfl (by decide +kernel)
theorem ok_examples_benchmark_grpc_states_WorkerSchema : examples_benchmark_grpc_states_WorkerSchema.check = true :=
  examples_benchmark_grpc_states_WorkerSchema.check_of_pos [5, 4, 10, 11, 12, 0, 2, 1, 9, 8, 6, 7, 3] rfl (by decide +kernel)
theorem ok_examples_benchmark_grpc_worker_states_States : examples_benchmark_grpc_worker_states_States.check = true :=
  examples_benchmark_grpc_worker_states_States.check_of_pos [] rfl (by decide +kernel)
theorem ok_examples_cli_states_CliSchema : examples_cli_states_CliSchema.check = true :=
  examples_cli_states_CliSchema.check_of_pos [5, 6, 0, 4, 3, 11, 9, 7, 8, 10, 2, 1] rfl (by decide +kernel)
theorem ok_examples_cli_daemon_states_DaemonSchema : examples_cli_daemon_states_DaemonSchema.check = true :=
  examples_cli_daemon_states_DaemonSchema.check_of_pos [6, 10, 9, 0, 4, 3, 13, 11, 7, 8, 12, 2, 1, 5] rfl (by decide +kernel)
theorem ok_examples_mach_template_states_MachTemplateSchema : examples_mach_template_states_MachTemplateSchema.check = true :=
  examples_mach_template_states_MachTemplateSchema.check_of_pos [15, 11, 16, 0, 1, 2, 3, 13, 12, 21, 19, 17, 18, 10, 5, 4, 7, 6, 20, 9, 8, 14] rfl (by decide +kernel)
theorem ok_examples_nfa_states_NfaSchema : examples_nfa_states_NfaSchema.check = true :=
  examples_nfa_states_NfaSchema.check_of_pos [11, 5, 4, 0, 1, 2, 3, 10, 6, 7, 8, 9] rfl (by decide +kernel)
theorem ok_examples_path_watcher_states_States : examples_path_watcher_states_States.check = true :=
  examples_path_watcher_states_States.check_of_pos [] rfl (by decide +kernel)
theorem ok_examples_path_watcher_states_StatesDir : examples_path_watcher_states_StatesDir.check = true :=
  examples_path_watcher_states_StatesDir.check_of_pos [] rfl (by decide +kernel)
theorem ok_examples_repl_states_ExampleSchema : examples_repl_states_ExampleSchema.check = true :=
  examples_repl_states_ExampleSchema.check_of_pos [4, 3, 0, 1, 2] rfl (by decide +kernel)
theorem ok_examples_temporal_expense_states_States : examples_temporal_expense_states_States.check = true :=
  examples_temporal_expense_states_States.check_of_pos [] rfl (by decide +kernel)
theorem ok_examples_temporal_fileprocessing_states_States : examples_temporal_fileprocessing_states_States.check = true :=
  examples_temporal_fileprocessing_states_States.check_of_pos [] rfl (by decide +kernel)
theorem ok_examples_tree_state_source_states_FlightsSchema : examples_tree_state_source_states_FlightsSchema.check = true :=
  examples_tree_state_source_states_FlightsSchema.check_of_pos [3, 29, 19, 20, 18, 31, 28, 30, 27, 26, 21, 22, 23, 24, 25, 43, 33, 34, 32, 45, 42, 44, 41, 40, 35, 36, 37, 38, 39, 57, 47, 48, 46, 59, 56, 58, 55, 54, 49, 50, 51, 52, 53, 71, 61, 62, 60, 73, 70, 72, 69, 68, 63, 64, 65, 66, 67, 85, 75, 76, 74, 87, 84, 86, 83, 82, 77, 78, 79, 80, 81, 99, 89, 90, 88, 101, 98, 100, 97, 96, 91, 92, 93, 94, 95, 113, 103, 104, 102, 115, 112, 114, 111, 110, 105, 106, 107, 108, 109, 127, 117, 118, 116, 129, 126, 128, 125, 124, 119, 120, 121, 122, 123, 141, 131, 132, 130, 143, 140, 142, 139, 138, 133, 134, 135, 136, 137, 15, 5, 6, 4, 17, 14, 16, 13, 12, 7, 8, 9, 10, 11, 1, 0, 147, 146, 144, 145, 2] rfl (by decide +kernel)
theorem ok_examples_tui_states_TuiSchema : examples_tui_states_TuiSchema.check = true :=
  examples_tui_states_TuiSchema.check_of_pos [2, 7, 5, 1, 0, 8, 6, 3, 4] rfl (by decide +kernel)
theorem ok_examples_wasm_states_BarSchema : examples_wasm_states_BarSchema.check = true :=
  examples_wasm_states_BarSchema.check_of_pos [3, 9, 6, 1, 0, 8, 7, 4, 5, 2] rfl (by decide +kernel)
theorem ok_examples_wasm_states_FooSchema : examples_wasm_states_FooSchema.check = true :=
  examples_wasm_states_FooSchema.check_of_pos [4, 0, 7, 2, 1, 9, 8, 5, 6, 3] rfl (by decide +kernel)
theorem ok_examples_wasm_states_SharedSchema : examples_wasm_states_SharedSchema.check = true :=
  examples_wasm_states_SharedSchema.check_of_pos [3, 6, 1, 0, 8, 7, 4, 5, 2] rfl (by decide +kernel)
theorem ok_pkg_node_states_BootstrapSchema : pkg_node_states_BootstrapSchema.check = true :=
  pkg_node_states_BootstrapSchema.check_of_pos [3, 8, 1, 0, 7, 6, 4, 5, 2] rfl (by decide +kernel)
theorem ok_pkg_node_states_ClientSchema : pkg_node_states_ClientSchema.check = true :=
  pkg_node_states_ClientSchema.check_of_pos [4, 3, 2, 17, 16, 15, 18, 19, 7, 12, 11, 10, 13, 14, 20, 1, 0, 9, 5, 6, 8] rfl (by decide +kernel)
theorem ok_pkg_node_states_SupervisorSchema : pkg_node_states_SupervisorSchema.check = true :=
  pkg_node_states_SupervisorSchema.check_of_pos [8, 7, 6, 16, 22, 23, 12, 20, 17, 18, 19, 35, 15, 24, 9, 10, 29, 30, 13, 14, 33, 34, 31, 0, 1, 21, 32, 2, 26, 27, 28, 4, 3, 25, 11, 5] rfl (by decide +kernel)
theorem ok_pkg_node_states_WorkerSchema : pkg_node_states_WorkerSchema.check = true :=
  pkg_node_states_WorkerSchema.check_of_pos [9, 7, 8, 2, 6, 15, 13, 14, 16, 19, 17, 0, 1, 20, 12, 22, 23, 21, 4, 3, 18, 10, 11, 5] rfl (by decide +kernel)
theorem ok_pkg_pubsub_states_TopicSchema : pkg_pubsub_states_TopicSchema.check = true :=
  pkg_pubsub_states_TopicSchema.check_of_pos [12, 9, 10, 16, 15, 39, 19, 18, 20, 34, 37, 32, 33, 6, 27, 28, 22, 21, 26, 24, 25, 23, 17, 36, 29, 35, 11, 8, 38, 30, 13, 14, 7, 1, 0, 3, 2, 31, 5, 4] rfl (by decide +kernel)
theorem ok_pkg_rpc_states_ClientSchema : pkg_rpc_states_ClientSchema.check = true :=
  pkg_rpc_states_ClientSchema.check_of_pos [13, 20, 0, 21, 1, 19, 14, 22, 23, 18, 10, 12, 7, 15, 9, 8, 24, 16, 17, 11, 6, 3, 2, 5, 4] rfl (by decide +kernel)
theorem ok_pkg_rpc_states_ConsumerSchema : pkg_rpc_states_ConsumerSchema.check = true :=
  pkg_rpc_states_ConsumerSchema.check_of_pos [1, 0] rfl (by decide +kernel)
theorem ok_pkg_rpc_states_MuxSchema : pkg_rpc_states_MuxSchema.check = true :=
  pkg_rpc_states_MuxSchema.check_of_pos [3, 8, 0, 4, 7, 2, 1, 9, 5, 6] rfl (by decide +kernel)
theorem ok_pkg_rpc_states_ServerSchema : pkg_rpc_states_ServerSchema.check = true :=
  pkg_rpc_states_ServerSchema.check_of_pos [7, 13, 16, 14, 15, 0, 8, 12, 18, 4, 6, 1, 9, 3, 2, 17, 10, 11, 5] rfl (by decide +kernel)
theorem ok_pkg_rpc_states_SharedSchema : pkg_rpc_states_SharedSchema.check = true :=
  pkg_rpc_states_SharedSchema.check_of_pos [6, 3, 5, 0, 7, 8, 2, 1, 12, 11, 9, 10, 4] rfl (by decide +kernel)
theorem ok_pkg_rpc_states_StateSourceSchema : pkg_rpc_states_StateSourceSchema.check = true :=
  pkg_rpc_states_StateSourceSchema.check_of_pos [1, 0] rfl (by decide +kernel)
theorem ok_pkg_states_BasicSchema : pkg_states_BasicSchema.check = true :=
  pkg_states_BasicSchema.check_of_pos [2, 1, 0, 6, 5, 3, 4] rfl (by decide +kernel)
theorem ok_pkg_states_ConnPoolSchema : pkg_states_ConnPoolSchema.check = true :=
  pkg_states_ConnPoolSchema.check_of_pos [5, 2, 0, 1, 4, 3, 6] rfl (by decide +kernel)
theorem ok_pkg_states_ConnectedSchema : pkg_states_ConnectedSchema.check = true :=
  pkg_states_ConnectedSchema.check_of_pos [4, 1, 0, 3, 2, 5] rfl (by decide +kernel)
theorem ok_pkg_states_DisposedSchema : pkg_states_DisposedSchema.check = true :=
  pkg_states_DisposedSchema.check_of_pos [3, 2, 1, 0] rfl (by decide +kernel)
theorem ok_pkg_x_history_frostdb_BasicSchema : pkg_x_history_frostdb_BasicSchema.check = true :=
  pkg_x_history_frostdb_BasicSchema.check_of_pos [2, 1, 0, 6, 5, 3, 4] rfl (by decide +kernel)
theorem ok_tools_debugger_states_DebuggerSchema : tools_debugger_states_DebuggerSchema.check = true :=
  tools_debugger_states_DebuggerSchema.check_of_pos [26, 20, 25, 109, 110, 106, 104, 107, 105, 95, 96, 50, 5, 87, 83, 57, 16, 91, 92, 93, 94, 52, 0, 69, 86, 84, 61, 108, 6, 79, 85, 46, 27, 56, 65, 29, 28, 30, 36, 33, 32, 54, 38, 34, 31, 37, 35, 66, 48, 78, 45, 43, 97, 60, 98, 82, 64, 63, 88, 90, 81, 80, 70, 58, 59, 53, 51, 102, 103, 55, 101, 100, 62, 1, 40, 39, 89, 41, 2, 42, 3, 72, 71, 73, 8, 99, 68, 4, 49, 74, 75, 77, 76, 11, 10, 13, 12, 15, 14, 23, 22, 44, 21, 9, 7, 17, 47, 24, 67, 19, 18] rfl (by decide +kernel)
theorem ok_tools_debugger_states_ServerSchema : tools_debugger_states_ServerSchema.check = true :=
  tools_debugger_states_ServerSchema.check_of_pos [5, 3, 1, 0, 2, 4] rfl (by decide +kernel)
theorem ok_tools_generator_states_GeneratorSchema : tools_generator_states_GeneratorSchema.check = true :=
  tools_generator_states_GeneratorSchema.check_of_pos [9, 4, 5, 6, 8, 7, 3, 2, 1, 0] rfl (by decide +kernel)
theorem ok_tools_relay_states_RelaySchema : tools_relay_states_RelaySchema.check = true :=
  tools_relay_states_RelaySchema.check_of_pos [8, 12, 11, 19, 20, 17, 18, 7, 6, 16, 14, 9, 10, 15, 4, 3, 5, 1, 0, 2, 13] rfl (by decide +kernel)
theorem ok_tools_relay_states_WsTcpTunSchema : tools_relay_states_WsTcpTunSchema.check = true :=
  tools_relay_states_WsTcpTunSchema.check_of_pos [6, 2, 5, 15, 13, 14, 12, 10, 1, 0, 4, 3, 11, 9, 7, 8] rfl (by decide +kernel)
theorem ok_tools_repl_states_ReplSchema : tools_repl_states_ReplSchema.check = true :=
  tools_repl_states_ReplSchema.check_of_pos [23, 22, 30, 31, 1, 6, 2, 3, 5, 7, 11, 9, 10, 4, 8, 29, 26, 0, 21, 20, 32, 27, 24, 25, 19, 14, 12, 13, 16, 15, 28, 18, 17] rfl (by decide +kernel)
theorem ok_tools_visualizer_states_VisualizerSchema : tools_visualizer_states_VisualizerSchema.check = true :=
  tools_visualizer_states_VisualizerSchema.check_of_pos [8, 7, 6, 14, 12, 9, 10, 13, 4, 3, 5, 1, 0, 2, 11] rfl (by decide +kernel)

/-! exclusive groups covered by the static mutual-exclusion theorem -/
theorem grp_examples_arpc_states_ExampleSchema_Mutex : (examples_arpc_states_ExampleSchema.mutualRemove [0, 1, 2] && examples_arpc_states_ExampleSchema.mutexStatic [0, 1, 2]) = true := by decide +kernel
theorem grp_examples_benchmark_grpc_states_WorkerSchema_Values : (examples_benchmark_grpc_states_WorkerSchema.mutualRemove [2, 3, 4] && examples_benchmark_grpc_states_WorkerSchema.mutexStatic [2, 3, 4]) = true := by decide +kernel
theorem grp_examples_cli_daemon_states_DaemonSchema_Ops : (examples_cli_daemon_states_DaemonSchema.mutualRemove [1, 2] && examples_cli_daemon_states_DaemonSchema.mutexStatic [1, 2]) = true := by decide +kernel
theorem grp_examples_mach_template_states_MachTemplateSchema_Connected : (examples_mach_template_states_MachTemplateSchema.mutualRemove [14, 15, 16, 17] && examples_mach_template_states_MachTemplateSchema.mutexStatic [14, 15, 16, 17]) = true := by decide +kernel
theorem grp_examples_nfa_states_NfaSchema_Steps : (examples_nfa_states_NfaSchema.mutualRemove [6, 7, 8, 9, 10] && examples_nfa_states_NfaSchema.mutexStatic [6, 7, 8, 9, 10]) = true := by decide +kernel
theorem grp_examples_repl_states_ExampleSchema_Mutex : (examples_repl_states_ExampleSchema.mutualRemove [0, 1, 2] && examples_repl_states_ExampleSchema.mutexStatic [0, 1, 2]) = true := by decide +kernel
theorem grp_examples_tree_state_source_states_FlightsSchema_Flight10Direction : (examples_tree_state_source_states_FlightsSchema.mutualRemove [132, 133] && examples_tree_state_source_states_FlightsSchema.mutexStatic [132, 133]) = true := by decide +kernel
theorem grp_examples_tree_state_source_states_FlightsSchema_Flight10Gates : (examples_tree_state_source_states_FlightsSchema.mutualRemove [136, 137, 138, 139, 140] && examples_tree_state_source_states_FlightsSchema.mutexStatic [136, 137, 138, 139, 140]) = true := by decide +kernel
theorem grp_examples_tree_state_source_states_FlightsSchema_Flight10Status : (examples_tree_state_source_states_FlightsSchema.mutualRemove [127, 128, 129, 130, 131] && examples_tree_state_source_states_FlightsSchema.mutexStatic [127, 128, 129, 130, 131]) = true := by decide +kernel
theorem grp_examples_tree_state_source_states_FlightsSchema_Flight1Direction : (examples_tree_state_source_states_FlightsSchema.mutualRemove [6, 7] && examples_tree_state_source_states_FlightsSchema.mutexStatic [6, 7]) = true := by decide +kernel
theorem grp_examples_tree_state_source_states_FlightsSchema_Flight1Gates : (examples_tree_state_source_states_FlightsSchema.mutualRemove [10, 11, 12, 13, 14] && examples_tree_state_source_states_FlightsSchema.mutexStatic [10, 11, 12, 13, 14]) = true := by decide +kernel
theorem grp_examples_tree_state_source_states_FlightsSchema_Flight1Status : (examples_tree_state_source_states_FlightsSchema.mutualRemove [1, 2, 3, 4, 5] && examples_tree_state_source_states_FlightsSchema.mutexStatic [1, 2, 3, 4, 5]) = true := by decide +kernel
theorem grp_examples_tree_state_source_states_FlightsSchema_Flight2Direction : (examples_tree_state_source_states_FlightsSchema.mutualRemove [20, 21] && examples_tree_state_source_states_FlightsSchema.mutexStatic [20, 21]) = true := by decide +kernel
theorem grp_examples_tree_state_source_states_FlightsSchema_Flight2Gates : (examples_tree_state_source_states_FlightsSchema.mutualRemove [24, 25, 26, 27, 28] && examples_tree_state_source_states_FlightsSchema.mutexStatic [24, 25, 26, 27, 28]) = true := by decide +kernel
theorem grp_examples_tree_state_source_states_FlightsSchema_Flight2Status : (examples_tree_state_source_states_FlightsSchema.mutualRemove [15, 16, 17, 18, 19] && examples_tree_state_source_states_FlightsSchema.mutexStatic [15, 16, 17, 18, 19]) = true := by decide +kernel
theorem grp_examples_tree_state_source_states_FlightsSchema_Flight3Direction : (examples_tree_state_source_states_FlightsSchema.mutualRemove [34, 35] && examples_tree_state_source_states_FlightsSchema.mutexStatic [34, 35]) = true := by decide +kernel
theorem grp_examples_tree_state_source_states_FlightsSchema_Flight3Gates : (examples_tree_state_source_states_FlightsSchema.mutualRemove [38, 39, 40, 41, 42] && examples_tree_state_source_states_FlightsSchema.mutexStatic [38, 39, 40, 41, 42]) = true := by decide +kernel
theorem grp_examples_tree_state_source_states_FlightsSchema_Flight3Status : (examples_tree_state_source_states_FlightsSchema.mutualRemove [29, 30, 31, 32, 33] && examples_tree_state_source_states_FlightsSchema.mutexStatic [29, 30, 31, 32, 33]) = true := by decide +kernel
theorem grp_examples_tree_state_source_states_FlightsSchema_Flight4Direction : (examples_tree_state_source_states_FlightsSchema.mutualRemove [48, 49] && examples_tree_state_source_states_FlightsSchema.mutexStatic [48, 49]) = true := by decide +kernel
theorem grp_examples_tree_state_source_states_FlightsSchema_Flight4Gates : (examples_tree_state_source_states_FlightsSchema.mutualRemove [52, 53, 54, 55, 56] && examples_tree_state_source_states_FlightsSchema.mutexStatic [52, 53, 54, 55, 56]) = true := by decide +kernel
theorem grp_examples_tree_state_source_states_FlightsSchema_Flight4Status : (examples_tree_state_source_states_FlightsSchema.mutualRemove [43, 44, 45, 46, 47] && examples_tree_state_source_states_FlightsSchema.mutexStatic [43, 44, 45, 46, 47]) = true := by decide +kernel
theorem grp_examples_tree_state_source_states_FlightsSchema_Flight5Direction : (examples_tree_state_source_states_FlightsSchema.mutualRemove [62, 63] && examples_tree_state_source_states_FlightsSchema.mutexStatic [62, 63]) = true := by decide +kernel
theorem grp_examples_tree_state_source_states_FlightsSchema_Flight5Gates : (examples_tree_state_source_states_FlightsSchema.mutualRemove [66, 67, 68, 69, 70] && examples_tree_state_source_states_FlightsSchema.mutexStatic [66, 67, 68, 69, 70]) = true := by decide +kernel
theorem grp_examples_tree_state_source_states_FlightsSchema_Flight5Status : (examples_tree_state_source_states_FlightsSchema.mutualRemove [57, 58, 59, 60, 61] && examples_tree_state_source_states_FlightsSchema.mutexStatic [57, 58, 59, 60, 61]) = true := by decide +kernel
theorem grp_examples_tree_state_source_states_FlightsSchema_Flight6Direction : (examples_tree_state_source_states_FlightsSchema.mutualRemove [76, 77] && examples_tree_state_source_states_FlightsSchema.mutexStatic [76, 77]) = true := by decide +kernel
theorem grp_examples_tree_state_source_states_FlightsSchema_Flight6Gates : (examples_tree_state_source_states_FlightsSchema.mutualRemove [80, 81, 82, 83, 84] && examples_tree_state_source_states_FlightsSchema.mutexStatic [80, 81, 82, 83, 84]) = true := by decide +kernel
theorem grp_examples_tree_state_source_states_FlightsSchema_Flight6Status : (examples_tree_state_source_states_FlightsSchema.mutualRemove [71, 72, 73, 74, 75] && examples_tree_state_source_states_FlightsSchema.mutexStatic [71, 72, 73, 74, 75]) = true := by decide +kernel
theorem grp_examples_tree_state_source_states_FlightsSchema_Flight7Direction : (examples_tree_state_source_states_FlightsSchema.mutualRemove [90, 91] && examples_tree_state_source_states_FlightsSchema.mutexStatic [90, 91]) = true := by decide +kernel
theorem grp_examples_tree_state_source_states_FlightsSchema_Flight7Gates : (examples_tree_state_source_states_FlightsSchema.mutualRemove [94, 95, 96, 97, 98] && examples_tree_state_source_states_FlightsSchema.mutexStatic [94, 95, 96, 97, 98]) = true := by decide +kernel
theorem grp_examples_tree_state_source_states_FlightsSchema_Flight7Status : (examples_tree_state_source_states_FlightsSchema.mutualRemove [85, 86, 87, 88, 89] && examples_tree_state_source_states_FlightsSchema.mutexStatic [85, 86, 87, 88, 89]) = true := by decide +kernel
theorem grp_examples_tree_state_source_states_FlightsSchema_Flight8Direction : (examples_tree_state_source_states_FlightsSchema.mutualRemove [104, 105] && examples_tree_state_source_states_FlightsSchema.mutexStatic [104, 105]) = true := by decide +kernel
theorem grp_examples_tree_state_source_states_FlightsSchema_Flight8Gates : (examples_tree_state_source_states_FlightsSchema.mutualRemove [108, 109, 110, 111, 112] && examples_tree_state_source_states_FlightsSchema.mutexStatic [108, 109, 110, 111, 112]) = true := by decide +kernel
theorem grp_examples_tree_state_source_states_FlightsSchema_Flight8Status : (examples_tree_state_source_states_FlightsSchema.mutualRemove [99, 100, 101, 102, 103] && examples_tree_state_source_states_FlightsSchema.mutexStatic [99, 100, 101, 102, 103]) = true := by decide +kernel
theorem grp_examples_tree_state_source_states_FlightsSchema_Flight9Direction : (examples_tree_state_source_states_FlightsSchema.mutualRemove [118, 119] && examples_tree_state_source_states_FlightsSchema.mutexStatic [118, 119]) = true := by decide +kernel
theorem grp_examples_tree_state_source_states_FlightsSchema_Flight9Gates : (examples_tree_state_source_states_FlightsSchema.mutualRemove [122, 123, 124, 125, 126] && examples_tree_state_source_states_FlightsSchema.mutexStatic [122, 123, 124, 125, 126]) = true := by decide +kernel
theorem grp_examples_tree_state_source_states_FlightsSchema_Flight9Status : (examples_tree_state_source_states_FlightsSchema.mutualRemove [113, 114, 115, 116, 117] && examples_tree_state_source_states_FlightsSchema.mutexStatic [113, 114, 115, 116, 117]) = true := by decide +kernel
theorem grp_pkg_node_states_SupervisorSchema_PoolNormalized : (pkg_node_states_SupervisorSchema.mutualRemove [9, 8] && pkg_node_states_SupervisorSchema.mutexStatic [9, 8]) = true := by decide +kernel
theorem grp_pkg_node_states_WorkerSchema_WorkStatus : (pkg_node_states_WorkerSchema.mutualRemove [15, 16, 17, 14] && pkg_node_states_WorkerSchema.mutexStatic [15, 16, 17, 14]) = true := by decide +kernel
theorem grp_pkg_pubsub_states_TopicSchema_Connected : (pkg_pubsub_states_TopicSchema.mutualRemove [33, 34, 35, 36] && pkg_pubsub_states_TopicSchema.mutexStatic [33, 34, 35, 36]) = true := by decide +kernel
theorem grp_pkg_rpc_states_ClientSchema_Connected : (pkg_rpc_states_ClientSchema.mutualRemove [21, 22, 23, 24] && pkg_rpc_states_ClientSchema.mutexStatic [21, 22, 23, 24]) = true := by decide +kernel
theorem grp_pkg_rpc_states_ClientSchema_Handshake : (pkg_rpc_states_ClientSchema.mutualRemove [13, 6] && pkg_rpc_states_ClientSchema.mutexStatic [13, 6]) = true := by decide +kernel
theorem grp_pkg_rpc_states_ServerSchema_Handshake : (pkg_rpc_states_ServerSchema.mutualRemove [12, 6] && pkg_rpc_states_ServerSchema.mutexStatic [12, 6]) = true := by decide +kernel
theorem grp_pkg_rpc_states_ServerSchema_Rpc : (pkg_rpc_states_ServerSchema.mutualRemove [2, 3, 4] && pkg_rpc_states_ServerSchema.mutexStatic [2, 3, 4]) = true := by decide +kernel
theorem grp_pkg_rpc_states_SharedSchema_Handshake : (pkg_rpc_states_SharedSchema.mutualRemove [5, 4] && pkg_rpc_states_SharedSchema.mutexStatic [5, 4]) = true := by decide +kernel
theorem grp_pkg_states_ConnectedSchema_Connected : (pkg_states_ConnectedSchema.mutualRemove [1, 2, 3, 4] && pkg_states_ConnectedSchema.mutexStatic [1, 2, 3, 4]) = true := by decide +kernel
theorem grp_tools_debugger_states_DebuggerSchema_ClientTx : (tools_debugger_states_DebuggerSchema.mutualRemove [60, 61] && tools_debugger_states_DebuggerSchema.mutexStatic [60, 61]) = true := by decide +kernel
theorem grp_tools_debugger_states_DebuggerSchema_Dialog : (tools_debugger_states_DebuggerSchema.mutualRemove [31, 32] && tools_debugger_states_DebuggerSchema.mutexStatic [31, 32]) = true := by decide +kernel
theorem grp_tools_debugger_states_DebuggerSchema_Playing : (tools_debugger_states_DebuggerSchema.mutualRemove [56, 57, 55] && tools_debugger_states_DebuggerSchema.mutexStatic [56, 57, 55]) = true := by decide +kernel
theorem grp_tools_debugger_states_DebuggerSchema_Views : (tools_debugger_states_DebuggerSchema.mutualRemove [53, 52, 54] && tools_debugger_states_DebuggerSchema.mutexStatic [53, 52, 54]) = true := by decide +kernel

def coveredGroups : List String := ["examples/arpc/states.ExampleSchema/Mutex", "examples/benchmark_grpc/states.WorkerSchema/Values", "examples/cli_daemon/states.DaemonSchema/Ops", "examples/mach_template/states.MachTemplateSchema/Connected", "examples/nfa/states.NfaSchema/Steps", "examples/repl/states.ExampleSchema/Mutex", "examples/tree_state_source/states.FlightsSchema/Flight10Direction", "examples/tree_state_source/states.FlightsSchema/Flight10Gates", "examples/tree_state_source/states.FlightsSchema/Flight10Status", "examples/tree_state_source/states.FlightsSchema/Flight1Direction", "examples/tree_state_source/states.FlightsSchema/Flight1Gates", "examples/tree_state_source/states.FlightsSchema/Flight1Status", "examples/tree_state_source/states.FlightsSchema/Flight2Direction", "examples/tree_state_source/states.FlightsSchema/Flight2Gates", "examples/tree_state_source/states.FlightsSchema/Flight2Status", "examples/tree_state_source/states.FlightsSchema/Flight3Direction", "examples/tree_state_source/states.FlightsSchema/Flight3Gates", "examples/tree_state_source/states.FlightsSchema/Flight3Status", "examples/tree_state_source/states.FlightsSchema/Flight4Direction", "examples/tree_state_source/states.FlightsSchema/Flight4Gates", "examples/tree_state_source/states.FlightsSchema/Flight4Status", "examples/tree_state_source/states.FlightsSchema/Flight5Direction", "examples/tree_state_source/states.FlightsSchema/Flight5Gates", "examples/tree_state_source/states.FlightsSchema/Flight5Status", "examples/tree_state_source/states.FlightsSchema/Flight6Direction", "examples/tree_state_source/states.FlightsSchema/Flight6Gates", "examples/tree_state_source/states.FlightsSchema/Flight6Status", "examples/tree_state_source/states.FlightsSchema/Flight7Direction", "examples/tree_state_source/states.FlightsSchema/Flight7Gates", "examples/tree_state_source/states.FlightsSchema/Flight7Status", "examples/tree_state_source/states.FlightsSchema/Flight8Direction", "examples/tree_state_source/states.FlightsSchema/Flight8Gates", "examples/tree_state_source/states.FlightsSchema/Flight8Status", "examples/tree_state_source/states.FlightsSchema/Flight9Direction", "examples/tree_state_source/states.FlightsSchema/Flight9Gates", "examples/tree_state_source/states.FlightsSchema/Flight9Status", "pkg/node/states.SupervisorSchema/PoolNormalized", "pkg/node/states.WorkerSchema/WorkStatus", "pkg/pubsub/states.TopicSchema/Connected", "pkg/rpc/states.ClientSchema/Connected", "pkg/rpc/states.ClientSchema/Handshake", "pkg/rpc/states.ServerSchema/Handshake", "pkg/rpc/states.ServerSchema/Rpc", "pkg/rpc/states.SharedSchema/Handshake", "pkg/states.ConnectedSchema/Connected", "tools/debugger/states.DebuggerSchema/ClientTx", "tools/debugger/states.DebuggerSchema/Dialog", "tools/debugger/states.DebuggerSchema/Playing", "tools/debugger/states.DebuggerSchema/Views"]

/-- mutually-Removing groups with more than one Add target: not covered by the
    static theorem (exploration only) -/
def uncoveredGroups : List String := ["pkg/node/states.SupervisorSchema/PoolStatus", "tools/debugger/states.DebuggerSchema/Focused"]

/-- every extracted schema passes the static checks -/
theorem all_ok : all.all GenSchema.check = true := by
  simp only [all, List.all_cons, List.all_nil, Bool.and_true, Bool.and_eq_true]
  exact ⟨ok_examples_arpc_states_ExampleSchema, ok_examples_basic_states_Schema, ok_examples_benchmark_grpc_states_WorkerSchema, ok_examples_benchmark_grpc_worker_states_States, ok_examples_cli_states_CliSchema, ok_examples_cli_daemon_states_DaemonSchema, ok_examples_mach_template_states_MachTemplateSchema, ok_examples_nfa_states_NfaSchema, ok_examples_path_watcher_states_States, ok_examples_path_watcher_states_StatesDir, ok_examples_repl_states_ExampleSchema, ok_examples_temporal_expense_states_States, ok_examples_temporal_fileprocessing_states_States, ok_examples_tree_state_source_states_FlightsSchema, ok_examples_tui_states_TuiSchema, ok_examples_wasm_states_BarSchema, ok_examples_wasm_states_FooSchema, ok_examples_wasm_states_SharedSchema, ok_pkg_node_states_BootstrapSchema, ok_pkg_node_states_ClientSchema, ok_pkg_node_states_SupervisorSchema, ok_pkg_node_states_WorkerSchema, ok_pkg_pubsub_states_TopicSchema, ok_pkg_rpc_states_ClientSchema, ok_pkg_rpc_states_ConsumerSchema, ok_pkg_rpc_states_MuxSchema, ok_pkg_rpc_states_ServerSchema, ok_pkg_rpc_states_SharedSchema, ok_pkg_rpc_states_StateSourceSchema, ok_pkg_states_BasicSchema, ok_pkg_states_ConnPoolSchema, ok_pkg_states_ConnectedSchema, ok_pkg_states_DisposedSchema, ok_pkg_x_history_frostdb_BasicSchema, ok_tools_debugger_states_DebuggerSchema, ok_tools_debugger_states_ServerSchema, ok_tools_generator_states_GeneratorSchema, ok_tools_relay_states_RelaySchema, ok_tools_relay_states_WsTcpTunSchema, ok_tools_repl_states_ReplSchema, ok_tools_visualizer_states_VisualizerSchema⟩

end Am.Gen
