/- Interleaving models: a list of per-goroutine states, one of which moves at a time,
   and a schedule folded over a step function. -/
namespace Am

/-- replacing the `i`-th element, `q`, by `p` moves one unit of every count from `q`'s class to `p`'s. -/
theorem length_filter_set {α : Type} (f : α → Bool) {l : List α} {i : Nat} {q : α}
    (h : l[i]? = some q) (p : α) :
    ((l.set i p).filter f).length + (if f q then 1 else 0)
      = (l.filter f).length + (if f p then 1 else 0) := by
  obtain ⟨hi, rfl⟩ := List.getElem?_eq_some_iff.mp h
  have := List.boole_getElem_le_countP (p := f) hi
  rw [← List.countP_eq_length_filter, ← List.countP_eq_length_filter, List.countP_set hi]
  omega

theorem length_filter_eq_zero {α : Type} {f : α → Bool} {l : List α} (h : ∀ a ∈ l, f a = false) :
    (l.filter f).length = 0 :=
  List.length_eq_zero_iff.mpr (List.filter_eq_nil_iff.mpr fun a ha => ne_true_of_eq_false (h a ha))

theorem mem_set_of_ne {α : Type} {l : List α} {i : Nat} {q x : α} (h : l[i]? = some q) (hx : x ∈ l)
    (hne : x ≠ q) (p : α) : x ∈ l.set i p := by
  obtain ⟨j, hj, rfl⟩ := List.getElem_of_mem hx
  have hij : i ≠ j := by
    rintro rfl
    exact hne (Option.some.inj ((List.getElem?_eq_getElem hj).symm.trans h))
  exact List.getElem_set_ne hij (List.length_set ▸ hj) ▸ List.getElem_mem _

/-- an invariant of the enabled steps is an invariant of every schedule (disabled moves are skipped). -/
theorem foldl_getD_inv {σ ι : Type} {step : σ → ι → Option σ} {P : σ → Prop}
    (hstep : ∀ s i s', P s → step s i = some s' → P s') (l : List ι) {s : σ} (h : P s) :
    P (l.foldl (fun s i => (step s i).getD s) s) := by
  refine List.foldlRecOn l _ h fun s hs i _ => ?_
  cases e : step s i with
  | none => exact hs
  | some s' => exact hstep s i s' hs e

end Am
