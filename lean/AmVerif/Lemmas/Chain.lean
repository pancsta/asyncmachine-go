/-
  The structural theorem of the sequential model: whatever the schema, the
  handler oracle and the history, the machine's (active, clock) pair only ever
  changes through two atomic steps —
    * `apply`:   `setActiveStates` with a target produced by the resolver,
    * `recover`: `recoverFinalPhase` after a fault in a final handler
                 (only when the oracle can fault: parameter `F`),
  everything else (queueing, handler calls, tracers, negotiation — even with
  panics) leaves them alone. Every invariant of C01/C02/C03/C08 is then a
  small lemma about the two atomic steps: C01's `Inv` is kept and ticks only grow
  (`Good`, `Chg.good`); what holds of every resolved target holds of the active
  set (`Chg.active_inv`).
-/
import AmVerif.Lemmas.Path
import AmVerif.Lemmas.Clock
import AmVerif.Lemmas.Resolver
namespace Am

/-- atomic changes of (active, clock); `F` = "the oracle may fault". -/
inductive Chg (F : Prop) : Mach → Mach → Prop
  | quiet {m m' : Mach} : m'.sch = m.sch → m'.topo = m.topo → m'.active = m.active →
      m'.clock = m.clock → Chg F m m'
  | apply {m : Mach} (c : RCtx) (toSet called : S) : c.sch = m.sch →
      Chg F m (applyActive m called (targetStates c toSet))
  | recover {m : Mach} (t : Tx) : F → FinalOk t → Chg F m (recoverFinalPhase m t)
  | trans {a b c : Mach} : Chg F a b → Chg F b c → Chg F a c

theorem Chg.refl {F : Prop} (m : Mach) : Chg F m m := Chg.quiet rfl rfl rfl rfl

theorem Chg.sch {F : Prop} {m m' : Mach} (h : Chg F m m') : m'.sch = m.sch := by
  induction h with
  | quiet hs _ _ _ => exact hs
  | apply _ _ _ _ => exact applyActive_sch _ _ _
  | recover _ _ _ => exact recoverFinalPhase_sch _ _
  | trans _ _ ih1 ih2 => exact ih2.trans ih1

theorem Chg.topo {F : Prop} {m m' : Mach} (h : Chg F m m') : m'.topo = m.topo := by
  induction h with
  | quiet _ ht _ _ => exact ht
  | apply _ _ _ _ => exact applyActive_topo _ _ _
  | recover _ _ _ => exact recoverFinalPhase_topo _ _
  | trans _ _ ih1 ih2 => exact ih2.trans ih1

/-- a fault-free run is a faulty run. -/
theorem Chg.weaken {F G : Prop} (fg : F → G) {m m' : Mach} (h : Chg F m m') : Chg G m m' := by
  induction h with
  | quiet a b c d => exact Chg.quiet a b c d
  | apply c ts cl h => exact Chg.apply c ts cl h
  | recover t f ok => exact Chg.recover t (fg f) ok
  | trans _ _ ih1 ih2 => exact Chg.trans ih1 ih2

/-- no change of schema, topology, active states or clock. -/
structure Quiet (m m' : Mach) : Prop where
  sch : m'.sch = m.sch
  topo : m'.topo = m.topo
  active : m'.active = m.active
  clock : m'.clock = m.clock

theorem Quiet.refl (m : Mach) : Quiet m m := ⟨rfl, rfl, rfl, rfl⟩
theorem Quiet.trans {a b c : Mach} (h1 : Quiet a b) (h2 : Quiet b c) : Quiet a c :=
  ⟨h2.sch.trans h1.sch, h2.topo.trans h1.topo, h2.active.trans h1.active, h2.clock.trans h1.clock⟩
theorem Quiet.toChg {F : Prop} {m m' : Mach} (h : Quiet m m') : Chg F m m' :=
  Chg.quiet h.sch h.topo h.active h.clock
theorem Silent.quiet {m m' : Mach} (h : Silent m m') : Quiet m m' := ⟨h.sch, h.topo, h.active, h.clock⟩

theorem quiet_queueMutation (m : Mach) (r : MutReq) : Quiet m (queueMutation m r).1 := by
  rcases queueMutation_eq m r with h | ⟨mu, -, h⟩ <;> rw [h] <;> exact ⟨rfl, rfl, rfl, rfl⟩

/-- facts about a transition record that handler calls never change. -/
structure SameTx (t t' : Tx) : Prop where
  target : t'.target = t.target
  mu : t'.mu = t.mu
  before : t'.before = t.before
  enters : t'.enters = t.enters
  exits : t'.exits = t.exits
  timeBefore : t'.timeBefore = t.timeBefore
  timeAfter : t'.timeAfter = t.timeAfter

theorem handle_sameTx (orc : Oracle) (m : Mach) (t : Tx) (name : HName) (to : ToState)
    (isFinal isEnter : Bool) : SameTx t (handle orc m t name to isFinal isEnter).2.1 := by
  obtain ⟨a, e⟩ := handle_tx orc m t name to isFinal isEnter
  rw [e]; exact ⟨rfl, rfl, rfl, rfl, rfl, rfl, rfl⟩

/-- what a negotiation loop may do to the machine and the transition record. -/
structure Keeps (m : Mach) (t : Tx) (m' : Mach) (t' : Tx) : Prop where
  chg : Quiet m m'
  tgtNA : t.mu.isAuto = false → t'.target = t.target
  mu : t'.mu = t.mu
  before : t'.before = t.before
  enters : t'.enters = t.enters
  exits : t'.exits = t.exits
  timeBefore : t'.timeBefore = t.timeBefore

theorem Keeps.of_quiet {m m' : Mach} {t : Tx} (h : Quiet m m') : Keeps m t m' t :=
  ⟨h, fun _ => rfl, rfl, rfl, rfl, rfl, rfl⟩

theorem Keeps.trans {m1 m2 m3 : Mach} {t1 t2 t3 : Tx} (a : Keeps m1 t1 m2 t2)
    (b : Keeps m2 t2 m3 t3) : Keeps m1 t1 m3 t3 :=
  ⟨a.chg.trans b.chg, fun h => (b.tgtNA (a.mu ▸ h)).trans (a.tgtNA h), b.mu.trans a.mu,
   b.before.trans a.before, b.enters.trans a.enters, b.exits.trans a.exits,
   b.timeBefore.trans a.timeBefore⟩

theorem Path.keeps {E : Ev → Prop} {m m' : Mach} {t t' : Tx} (h : Path False E m t m' t') :
    Keeps m t m' t' := by
  induction h with
  | trans _ _ ih1 ih2 => exact ih1.trans ih2
  | silent s => exact .of_quiet s.quiet
  | enq r => exact .of_quiet (quiet_queueMutation _ r)
  | recover g _ => exact g.elim
  | mark to e f a => exact ⟨.refl _, fun _ => rfl, rfl, rfl, rfl, rfl, rfl⟩
  | retarget tg h => exact ⟨.refl _, fun hn => (by rw [h] at hn; cases hn), rfl, rfl, rfl, rfl, rfl⟩
  | _ => exact .of_quiet ⟨rfl, rfl, rfl, rfl⟩

theorem Path.chg {G : Prop} {E : Ev → Prop} {m m' : Mach} {t t' : Tx} (h : Path G E m t m' t') :
    Chg G m m' := by
  induction h with
  | trans _ _ ih1 ih2 => exact ih1.trans ih2
  | silent s => exact s.quiet.toChg
  | enq r => exact (quiet_queueMutation _ r).toChg
  | recover g ok => exact .recover _ g ok
  | _ => exact .quiet rfl rfl rfl rfl

/-- the whole negotiation phase — whatever the handlers do, panics included —
    leaves (active, clock) untouched and, for a non-auto mutation, the target. -/
theorem negotiate_keeps (orc : Oracle) (m : Mach) (t : Tx) (r : Bool) :
    Keeps m t (negotiate orc m t r).1 (negotiate orc m t r).2.1 :=
  (negotiate_path orc m t r).keeps

/-- the target was produced by the resolver for this schema. -/
def Resolved (sch : Schema) (t : Tx) : Prop :=
  ∃ c toSet, c.sch = sch ∧ t.target = targetStates c toSet

theorem quiet_finish (m : Mach) (t : Tx) (r : Bool) : Quiet m (finish m t r).1 := by
  rw [finish_fst]; exact ⟨rfl, rfl, rfl, rfl⟩

theorem chg_applyPhase {F : Prop} (orc : Oracle) (hF : OrcF F orc) (m1 : Mach) (t2 : Tx)
    (h : Resolved m1.sch t2) : Chg F m1 (applyPhase orc m1 t2).1 := by
  obtain ⟨c, toSet, hc, htg⟩ := h
  have g1 : Chg F m1 (applyActive m1 t2.mu.called t2.target) := by
    rw [htg]; exact Chg.apply c toSet _ hc
  have g2 : Chg F m1 (applyTarget m1 t2).1 := g1.trans (Chg.quiet rfl rfl rfl rfl)
  obtain ⟨m4, t4, m6, t6, b, p4, p6, e⟩ := applyPhase_path orc hF m1 t2
  rw [e]
  exact ((g2.trans p4.chg).trans p6.chg).trans (quiet_finish _ _ _).toChg

theorem recheckAuto_resolved (m : Mach) (t : Tx) (h : t.mu.isAuto = false → Resolved m.sch t) :
    Resolved m.sch (recheckAuto m t) := by
  cases ha : t.mu.isAuto with
  | true =>
    exact ⟨m.rctx t, statesToSet .add m.active (diff t.mu.called (diff t.mu.called t.target)), rfl,
      by simp only [recheckAuto, ha, if_true, setupExitEnter_target]⟩
  | false => simp only [recheckAuto, ha, Bool.false_eq_true, if_false]; exact h ha

theorem newTx_resolved (m : Mach) (mu : Mut) : Resolved m.sch (newTx m mu).2 := by
  refine ⟨m.rctx { mu := mu, before := m.active, timeBefore := m.clock, timeAfter := m.clock, target := [] },
    statesToSet mu.kind m.active mu.called, rfl, ?_⟩
  simp only [newTx]
  split
  · simp only [setupExitEnter_target, setupAccepted_target]
  · simp only [setupAccepted_target]

section
variable {F : Prop}

theorem quiet_negotiation (orc : Oracle) (m0 : Mach) (t0 : Tx) :
    Quiet m0 (negotiate orc (m0.emit (.tStart t0.accepted)) t0 t0.accepted).1 :=
  (⟨rfl, rfl, rfl, rfl⟩ : Quiet m0 (m0.emit (.tStart t0.accepted))).trans (negotiate_keeps orc _ t0 t0.accepted).chg

/-- a transition is quiet unless it is applied, and it is applied only if a mutation that is no
    check has survived the negotiation. -/
theorem emitEvents_quiet (orc : Oracle) (m0 : Mach) (t0 : Tx) :
    let p := negotiate orc (m0.emit (.tStart t0.accepted)) t0 t0.accepted
    Quiet m0 (emitEvents orc m0 t0).1 ∨ (p.2.1.mu.isCheck = false ∧ p.2.2 = true ∧
      emitEvents orc m0 t0 = applyPhase orc p.1 (recheckAuto p.1 p.2.1)) := by
  rcases emitEvents_cases orc m0 t0 with ⟨_, h⟩ | ⟨t, b, h⟩ | h
  · rw [h]; exact .inl (quiet_negotiation orc m0 t0)
  · rw [h]; exact .inl ((quiet_negotiation orc m0 t0).trans (quiet_finish _ _ _))
  · exact .inr h

theorem chg_emitEvents (orc : Oracle) (hF : OrcF F orc) (m0 : Mach) (t0 : Tx)
    (h : Resolved m0.sch t0) : Chg F m0 (emitEvents orc m0 t0).1 := by
  rcases emitEvents_quiet orc m0 t0 with q | ⟨_, _, e⟩
  · exact q.toChg
  · have k := negotiate_keeps orc (m0.emit (.tStart t0.accepted)) t0 t0.accepted
    have q0 := quiet_negotiation orc m0 t0
    rw [e]
    -- the negotiation retargets auto mutations only, and `recheckAuto` resolves those again
    refine q0.toChg.trans (chg_applyPhase orc hF _ _ (recheckAuto_resolved _ _ fun hna => ?_))
    obtain ⟨c, ts, hc, ht⟩ := h
    exact ⟨c, ts, hc.trans q0.sch.symm, (k.tgtNA (k.mu ▸ hna)).trans ht⟩

theorem chg_runOne (orc : Oracle) (hF : OrcF F orc) (m : Mach) (mu : Mut) (rest : List Mut) :
    Chg F m (runOne orc m mu rest).1 := by
  have g1 : Chg F m (newTx (shiftQueue m mu rest) mu).1 := by
    unfold shiftQueue; split <;> exact Chg.quiet rfl rfl rfl rfl
  exact (g1.trans (chg_emitEvents orc hF _ _ (newTx_resolved _ mu))).trans
    (runOne_silent orc m mu rest).quiet.toChg

end

/-- C01's invariant: the active list has no duplicates, and a state is in it exactly when its tick
    is odd. -/
structure Inv (m : Mach) : Prop where
  nodup : m.active.Nodup
  parity : Parity m.active m.clock

/-- `m'` is a legal successor of `m`: invariant kept, ticks only grow. -/
structure Good (m m' : Mach) : Prop where
  len : m'.clock.length = m.clock.length
  inv : Inv m → Inv m'
  mono : Inv m → ∀ j, j < m.clock.length → m.clock.getD j 0 ≤ m'.clock.getD j 0

theorem Good.refl (m : Mach) : Good m m := ⟨rfl, id, fun _ _ _ => Nat.le_refl _⟩

theorem Good.trans {a b c : Mach} (h1 : Good a b) (h2 : Good b c) : Good a c :=
  ⟨h2.len.trans h1.len, fun h => h2.inv (h1.inv h),
   fun h j hj => Nat.le_trans (h1.mono h j hj) (h2.mono (h1.inv h) j (h1.len ▸ hj))⟩

theorem good_applyActive (m : Mach) (called target : S) (ht : m.active.Nodup → target.Nodup) :
    Good m (applyActive m called target) := by
  refine ⟨?_, ?_, ?_⟩
  · simp [applyActive, length_tickClock]
  · intro h
    exact ⟨ht h.nodup, parity_tickClock m.sch m.active m.clock called target (ht h.nodup) h.nodup h.parity⟩
  · intro h j hj
    exact mono_tickClock m.sch m.active m.clock called target (ht h.nodup) h.nodup j hj

theorem recoverWalk_none (t : Tx) (hn : t.latestTo = .none) (finals : S) :
    ∀ (acc : S), recoverWalk t finals acc false = acc := by
  induction finals with
  | nil => intro acc; rfl
  | cons s rest ih =>
    intro acc
    have hne : (t.latestTo == ToState.st s) = false := by rw [hn]; rfl
    simp only [recoverWalk, hne, Bool.or_self, Bool.not_false, if_true]
    exact ih acc

/-- a recovery on the Enter side, or without a state to start from, only removes. -/
theorem recoverWalk_sublist {t : Tx} (hok : FinalOk t) (finals acc : S) :
    (recoverWalk t finals acc false).Sublist acc := by
  rcases hok with he | hn
  · have h : ∀ (finals acc : S) (found : Bool), (recoverWalk t finals acc found).Sublist acc := by
      intro finals
      induction finals with
      | nil => intro acc _; exact .refl acc
      | cons s rest ih =>
        intro acc found
        simp only [recoverWalk, he, if_true]
        split
        · exact ih _ _
        · exact (ih _ _).trans (without_sublist acc s)
    exact h _ _ _
  · rw [recoverWalk_none t hn]; exact .refl acc

theorem Chg.good {F : Prop} {m m' : Mach} (h : Chg F m m') : Good m m' := by
  induction h with
  | quiet _ _ ha hc =>
    exact ⟨by rw [hc], fun h => ⟨ha ▸ h.nodup, by rw [ha, hc]; exact h.parity⟩,
      fun _ j _ => by rw [hc]; exact Nat.le_refl _⟩
  | apply c ts cl _ => exact good_applyActive _ _ _ (fun _ => targetStates_nodup _ _)
  | recover t _ ok => exact good_applyActive _ _ _ (recoverWalk_sublist ok _ _).nodup
  | trans _ _ ih1 ih2 => exact ih1.trans ih2

/-- what every resolved target satisfies (relative to its schema) is an invariant of the active
    set: `apply` writes a resolved target; `recover`, which needs a fault, only removes states, so
    when the oracle can fault `P` has to pass to sublists. -/
theorem Chg.active_inv {F : Prop} {P : Schema → S → Prop}
    (hP : ∀ (c : RCtx) (toSet : S), P c.sch (targetStates c toSet))
    (hsub : F → ∀ (sch : Schema) {a b : S}, b.Sublist a → P sch a → P sch b)
    {m m' : Mach} (h : Chg F m m') : P m.sch m.active → P m'.sch m'.active := by
  induction h with
  | quiet hs _ ha _ => rw [hs, ha]; exact id
  | apply c ts cl hc => rw [applyActive_sch, applyActive_active, ← hc]; exact fun _ => hP c ts
  | recover _ f ok => exact hsub f _ (recoverWalk_sublist ok _ _)
  | trans _ _ ih1 ih2 => exact ih2 ∘ ih1

end Am
