/-
  The transition code, read as a path of atomic updates.

  Everything below `negotiate` / `emitFinals` touches the machine and the transition record in
  eight ways only: bookkeeping no property speaks of (`silent`), the caller's crash flag, a log
  entry, an enqueue, a tick-less prepend, the recovery after a panic in a final handler, and two
  writes to the record (`mark`: the latest handler and `accepted`; `retarget`: the target of an
  auto mutation). `Path` is the closure of those atoms. Each function of the model gets a lemma
  saying that its result is reached by a path, and each property (what may happen to active states
  and clock, to the queue, to the log, to the record) is one induction over `Path`.

  Above the loops a transition is cut into such paths once (`emitEvents_cases`, `applyPhase_path`):
  `TransitionStart` and the negotiation; then either the caller has crashed, or `TransitionEnd`
  closes it unapplied, or the target is applied and `TransitionFinals`, a path of final handlers,
  a path of rank 5 (recovery, `AnyState`, the auto mutation) and `TransitionEnd` follow.

  Faults are a parameter: `OrcF F orc` says the oracle panics or times out only if `F` holds, and a
  recovery needs `F`. With `F := True` a lemma speaks of every oracle, with `F := False` of the
  fault-free ones; each is proved once.
-/
import AmVerif.Lemmas.Machine
namespace Am

/-- the latest handler was an Enter-side one, or carried no target state: what all three final
    call sites guarantee (State, AnyState: Enter side; End: no state), and what makes
    `recoverWalk` only remove (`recoverWalk_sublist`). -/
def FinalOk (t : Tx) : Prop := t.latestIsEnter = true ∨ t.latestTo = .none

/-- the oracle can only fault when `F` holds. -/
def OrcF (F : Prop) (orc : Oracle) : Prop :=
  ∀ b n k beh, orc b n k = some beh → (beh.act = .panic ∨ beh.act = .timeout) → F

theorem orcF_true (orc : Oracle) : OrcF True orc := fun _ _ _ _ _ _ => trivial

/-- neither a life-cycle callback nor a handler call. -/
def Ev.isPlain : Ev → Bool
  | .mq _ => true
  | .qEnd => true
  | .errInternal => true
  | .nested _ _ _ => true
  | .subbed _ _ => true
  | _ => false

/-- position of a handler in the documented sequence. -/
def hrank : HName → Nat
  | .exit _ => 0
  | .enter _ => 1
  | .trans _ _ => 2
  | .anyEnter => 3
  | .end_ _ => 4
  | .state _ => 4
  | .anyState => 5

def RankIs (k : Nat) (e : Ev) : Prop := e.isPlain = true ∨ ∃ b n a, e = .h b n a ∧ hrank n = k

/-- an update that no property looks at: handler counters, detached bindings, subscriptions,
    `inTx`, configuration. -/
structure Silent (m m' : Mach) : Prop where
  sch : m'.sch = m.sch
  topo : m'.topo = m.topo
  active : m'.active = m.active
  clock : m'.clock = m.clock
  queue : m'.queue = m.queue
  queueTick : m'.queueTick = m.queueTick
  pending : m'.pending = m.pending
  log : m'.log = m.log
  crashed : m'.crashed = m.crashed

theorem Silent.refl (m : Mach) : Silent m m := by constructor <;> rfl
theorem Silent.subs (m : Mach) (s : Subs) : Silent m { m with subs := s } := by constructor <;> rfl

/-- `(m', t')` is reached from `(m, t)` by atomic updates. `G` guards the recovery (it needs a
    fault and a final handler in flight), `E` says which events may be logged. -/
inductive Path (G : Prop) (E : Ev → Prop) : Mach → Tx → Mach → Tx → Prop
  | refl {m t} : Path G E m t m t
  | trans {m t m' t' m'' t''} : Path G E m t m' t' → Path G E m' t' m'' t'' → Path G E m t m'' t''
  | silent {m m' t} : Silent m m' → Path G E m t m' t
  | crash {m t} : Path G E m t { m with crashed := true } t
  | emit {m t} (e : Ev) : E e → Path G E m t (m.emit e) t
  | enq {m t} (r : MutReq) : Path G E m t (queueMutation m r).1 t
  | pre {m t} (mu : Mut) : mu.qtick = 0 → Path G E m t (prepend m mu) t
  | recover {m t} : G → FinalOk t → Path G E m t (recoverFinalPhase m t) t
  | mark {m t} (to : ToState) (isEnter isFinal acc : Bool) : Path G E m t m
      { t with latestTo := to, latestIsEnter := isEnter, latestIsFinal := isFinal, accepted := acc }
  | retarget {m t} (tg : S) : t.mu.isAuto = true → Path G E m t m { t with target := tg }

theorem Path.imp {G G' : Prop} {E E' : Ev → Prop} (hg : G → G') (he : ∀ e, E e → E' e)
    {m m' : Mach} {t t' : Tx} (h : Path G E m t m' t') : Path G' E' m t m' t' := by
  induction h with
  | refl => exact .refl
  | trans _ _ ih1 ih2 => exact ih1.trans ih2
  | silent s => exact .silent s
  | crash => exact .crash
  | emit e h => exact .emit e (he e h)
  | enq r => exact .enq r
  | pre mu h => exact .pre mu h
  | recover g ok => exact .recover (hg g) ok
  | mark to e f a => exact .mark to e f a
  | retarget tg h => exact .retarget tg h

/-- from the projections of a result to its components, for the equations a functional induction
    leaves among the hypotheses. -/
theorem Path.of_eq {α : Type} {G : Prop} {E : Ev → Prop} {m m1 : Mach} {t t1 : Tx} {a : α}
    {p : Mach × Tx × α} (k : Path G E m t p.1 p.2.1) (h : p = (m1, t1, a)) : Path G E m t m1 t1 := by
  subst h; exact k

section
variable {G : Prop} {k : Nat} {m : Mach} {t : Tx}

theorem issueLogged_path (r : MutReq) : Path G (RankIs k) m t (issueLogged m r) t := by
  have h : Path G (RankIs k) m t (issueNested m r).1 t := by
    unfold issueNested
    split
    · exact .refl
    · split
      · exact .refl
      · have h := Path.enq (G := G) (E := RankIs k) (m := m) (t := t) r
        split <;> (rename_i heq; rw [heq] at h; exact h)
  exact h.trans (.emit _ (Or.inl rfl))

theorem subLogged_path (r : SubReq) : Path G (RankIs k) m t (subLogged m r) t := by
  -- every branch of `doSub` returns `m` itself or `m` with other subscriptions
  have h : Silent m (doSub m r).1 := by
    unfold doSub
    split
    · split <;> exact .refl m
    · split <;> first | exact .subs m _ | (split <;> first | exact .refl m | exact .subs m _)
  exact (Path.silent h).trans (.emit _ (Or.inl rfl))

theorem foldl_path {α : Type} {E : Ev → Prop} (f : Mach → α → Mach) (hf : ∀ m a, Path G E m t (f m a) t)
    (l : List α) : ∀ m, Path G E m t (l.foldl f m) t := by
  induction l with
  | nil => intro m; exact .refl
  | cons a rest ih => intro m; exact (hf m a).trans (ih _)

theorem handlerBody_path (b : Nat) (name : HName) (beh : Behaviour) :
    Path G (RankIs (hrank name)) m t (handlerBody m b name beh) t :=
  (((Path.silent (m' := bumpCount m (b, name)) (by constructor <;> rfl)).trans
    (.emit _ (Or.inr ⟨b, name, m.active, rfl, rfl⟩))).trans
    (foldl_path _ (fun _ r => issueLogged_path r) _ _)).trans
    (foldl_path _ (fun _ r => subLogged_path r) _ _)

end

theorem recoverToErr_latest (m : Mach) (t : Tx) :
    (recoverToErr m t).2.latestIsFinal = t.latestIsFinal ∧ (FinalOk (recoverToErr m t).2 ↔ FinalOk t) := by
  rw [recoverToErr_tx]; exact ⟨rfl, Iff.rfl⟩

theorem recoverToErr_path {F : Prop} (k : Nat) (m : Mach) (t : Tx) (f : F)
    (hok : t.latestIsFinal = true → FinalOk t) :
    Path (F ∧ t.latestIsFinal = true) (RankIs k) m t (recoverToErr m t).1 (recoverToErr m t).2 := by
  unfold recoverToErr
  split
  · exact .refl
  · have h1 : Path (F ∧ t.latestIsFinal = true) (RankIs k) m t
        (if t.latestIsFinal = true then recoverFinalPhase m t else m) t := by
      split
      · rename_i hf; exact .recover ⟨f, hf⟩ (hok hf)
      · exact .refl
    exact (h1.trans (.pre _ rfl)).trans (.mark t.latestTo t.latestIsEnter t.latestIsFinal false)

theorem processHandlers_path {F : Prop} (orc : Oracle) (hF : OrcF F orc) (name : HName) (live : List Nat)
    (m : Mach) (t : Tx) (pk : Bool) (hok : t.latestIsFinal = true → FinalOk t) :
    Path (F ∧ t.latestIsFinal = true) (RankIs (hrank name)) m t
      (processHandlers orc name live m t pk).1 (processHandlers orc name live m t pk).2.1 := by
  -- the function's own induction principle; its cases follow the branches of the definition:
  -- 1 no binding left, 2 handler not defined, 3 / 4 record already rejected (final: skipped /
  -- negotiation: stop), 5 / 6 the handler returns (go on / veto), 7 detaches, 8 times out,
  -- 9 / 10 panics (final: recover and go on / negotiation: recover and stop)
  fun_induction processHandlers orc name live m t pk
  case case1 => exact .silent (.subs _ _)
  case case2 ih => exact ih hok
  case case3 ih => exact ih hok
  case case4 => exact .refl
  case case5 ih => exact (handlerBody_path _ _ _).trans (ih hok)
  case case6 => exact handlerBody_path _ _ _
  case case7 ih =>
    exact ((handlerBody_path _ _ _).trans (.silent (m' := markDetached _ _) (by constructor <;> rfl))).trans (ih hok)
  case case8 => exact (handlerBody_path _ _ _).trans (.emit _ (Or.inl rfl))
  case case9 ih =>
    obtain ⟨e1, e2⟩ := recoverToErr_latest (handlerBody _ _ name _) _
    have h := ih (fun hf => e2.2 (hok (e1 ▸ hf)))
    rw [e1] at h
    exact ((handlerBody_path _ _ _).trans
      (recoverToErr_path _ _ _ (hF _ name _ _ ‹_› (.inl ‹_›)) hok)).trans h
  case case10 =>
    exact (handlerBody_path _ _ _).trans (recoverToErr_path _ _ _ (hF _ name _ _ ‹_› (.inl ‹_›)) hok)

theorem processHandlers_tx (orc : Oracle) (name : HName) (live : List Nat) (m : Mach) (t : Tx) (pk : Bool) :
    ∃ a, (processHandlers orc name live m t pk).2.1 = { t with accepted := a } := by
  fun_induction processHandlers orc name live m t pk
  case case1 => exact ⟨_, rfl⟩
  case case2 ih => exact ih
  case case3 ih => exact ih
  case case4 => exact ⟨_, rfl⟩
  case case5 ih => exact ih
  case case6 => exact ⟨_, rfl⟩
  case case7 ih => exact ih
  case case8 => exact ⟨_, rfl⟩
  case case9 ih => obtain ⟨a, e⟩ := ih; exact ⟨a, e.trans (by rw [recoverToErr_tx])⟩
  case case10 => exact ⟨_, recoverToErr_tx _ _⟩

/-- a final-phase call reports failure only after a fault (`pk`: an earlier binding of this call
    has already panicked). -/
theorem processHandlers_fault {F : Prop} (orc : Oracle) (hF : OrcF F orc) (name : HName)
    (hn : name.isFinalName = true) (live : List Nat) (m : Mach) (t : Tx) (pk : Bool)
    (h : (processHandlers orc name live m t pk).2.2.res = false ∨
      (processHandlers orc name live m t pk).2.2.panicked = true) : pk = true ∨ F := by
  fun_induction processHandlers orc name live m t pk
  case case1 => exact h.elim (fun h => absurd h (by simp)) Or.inl
  case case2 ih => exact ih h
  case case3 ih => exact ih h
  case case4 hnf => exact absurd hn hnf
  case case5 ih => exact ih h
  case case6 hnf => exact absurd (by simp [hn]) hnf
  case case7 ih => exact ih h
  case case8 => exact .inr (hF _ name _ _ ‹_› (.inr ‹_›))
  case case9 => exact .inr (hF _ name _ _ ‹_› (.inl ‹_›))
  case case10 => exact .inr (hF _ name _ _ ‹_› (.inl ‹_›))

section
variable {F : Prop} (orc : Oracle) (m : Mach) (t : Tx) (name : HName) (to : ToState) (isFinal isEnter : Bool)

theorem handle_path (hF : OrcF F orc) (h : isFinal = true → isEnter = true ∨ to = .none) :
    Path (F ∧ isFinal = true) (RankIs (hrank name)) m t
      (handle orc m t name to isFinal isEnter).1 (handle orc m t name to isFinal isEnter).2.1 := by
  simp only [handle]
  exact (Path.mark to isEnter isFinal t.accepted).trans (processHandlers_path orc hF name m.live m
    { t with latestTo := to, latestIsEnter := isEnter, latestIsFinal := isFinal } false h)

theorem handle_tx : ∃ a, (handle orc m t name to isFinal isEnter).2.1 =
    { t with latestTo := to, latestIsEnter := isEnter, latestIsFinal := isFinal, accepted := a } := by
  simp only [handle]
  exact processHandlers_tx orc name m.live m _ false

theorem handle_fault (hF : OrcF F orc) (hn : name.isFinalName = true)
    (h : (handle orc m t name to isFinal isEnter).2.2 = false) : F := by
  -- `handle` reports `res && !panicked`
  simp only [handle, Bool.and_eq_false_iff, Bool.not_eq_false'] at h
  exact (processHandlers_fault orc hF name hn m.live m _ false h).resolve_left Bool.false_ne_true

/-- a final-phase call: a recovery needs a fault, and a call that fails has had one and leaves a
    record the recovery accepts. (`processHandlers` tells a final call by the handler's name, the
    recovery by the flag `latestIsFinal`; every call site of the model passes matching values.) -/
theorem handle_fin_path (hF : OrcF F orc) (hn : name.isFinalName = true) (h : isEnter = true ∨ to = .none) :
    Path F (RankIs (hrank name)) m t (handle orc m t name to true isEnter).1 (handle orc m t name to true isEnter).2.1 ∧
    ((handle orc m t name to true isEnter).2.2 = false →
      F ∧ FinalOk (handle orc m t name to true isEnter).2.1) := by
  refine ⟨(handle_path orc m t name to true isEnter hF (fun _ => h)).imp (·.1) (fun _ h => h), fun hf => ?_⟩
  obtain ⟨a, e⟩ := handle_tx orc m t name to true isEnter
  exact ⟨handle_fault orc m t name to true isEnter hF hn hf, by rw [e]; exact h⟩

end

theorem handle_neg_path (orc : Oracle) (m : Mach) (t : Tx) (name : HName) (to : ToState) (isEnter : Bool) :
    Path False (RankIs (hrank name)) m t
      (handle orc m t name to false isEnter).1 (handle orc m t name to false isEnter).2.1 :=
  (handle_path orc m t name to false isEnter (orcF_true orc) (by simp)).imp (fun h => by simp at h) (fun _ h => h)

/-! ### the negotiation loops

Each by the function's own induction principle: one case per branch of the definition, in its
order, with the equation for this iteration's handler call among the hypotheses. -/

theorem isAuto_of_and {t : Tx} {b : Bool} (h : (t.mu.isAuto && b) = true) : t.mu.isAuto = true := by
  simp only [Bool.and_eq_true] at h; exact h.1

theorem emitExits_path (orc : Oracle) (l : S) (m : Mach) (t : Tx) :
    Path False (RankIs 0) m t (emitExits orc l m t).1 (emitExits orc l m t).2.1 := by
  fun_induction emitExits orc l m t
  case case1 => exact .refl
  all_goals have k1 := (handle_neg_path orc _ _ _ _ _).of_eq ‹_›
  case case2 ih => exact k1.trans ih
  case case3 hauto _ ih => exact (k1.trans (.retarget _ (isAuto_of_and hauto))).trans ih
  case case4 => exact k1
  case case5 => exact k1

theorem emitEnters_path (orc : Oracle) (l : S) (m : Mach) (t : Tx) :
    Path False (RankIs 1) m t (emitEnters orc l m t).1 (emitEnters orc l m t).2.1 := by
  fun_induction emitEnters orc l m t
  case case1 => exact .refl
  all_goals have k1 := (handle_neg_path orc _ _ _ _ _).of_eq ‹_›
  case case2 ih => exact k1.trans ih
  case case3 hauto _ ih => exact (k1.trans (.retarget _ (isAuto_of_and hauto))).trans ih
  case case4 => exact k1.trans .crash
  case case5 => exact k1

theorem emitSelfs_path (orc : Oracle) (fuel i : Nat) (arr : List (Option Nat)) (m : Mach) (t : Tx) :
    Path False (RankIs 2) m t (emitSelfs orc fuel i arr m t).1 (emitSelfs orc fuel i arr m t).2.1 := by
  fun_induction emitSelfs orc fuel i arr m t
  case case1 => exact .refl
  case case2 => exact .refl
  case case3 ih => exact ih
  case case4 ih => exact ih
  all_goals have k1 := (handle_neg_path orc _ _ _ _ _).of_eq ‹_›
  case case5 ih => exact k1.trans ih
  case case6 => exact k1.trans .crash
  case case7 hauto _ _ _ ih => exact (k1.trans (.retarget _ (isAuto_of_and hauto))).trans ih
  case case8 => exact k1

theorem emitSSInner_path (orc : Oracle) (b : Nat) (l : S) (m : Mach) (t : Tx) :
    Path False (RankIs 2) m t (emitSSInner orc b l m t).1 (emitSSInner orc b l m t).2.1 := by
  fun_induction emitSSInner orc b l m t
  case case1 => exact .refl
  case case2 ih => exact ih
  all_goals have k1 := (handle_neg_path orc _ _ _ _ _).of_eq ‹_›
  case case3 ih => exact k1.trans ih
  case case4 hauto ih => exact (k1.trans (.retarget _ (isAuto_of_and hauto))).trans ih
  case case5 => exact k1

theorem emitSS_path (orc : Oracle) (after l : S) (m : Mach) (t : Tx) :
    Path False (RankIs 2) m t (emitSS orc after l m t).1 (emitSS orc after l m t).2.1 := by
  fun_induction emitSS orc after l m t
  case case1 => exact .refl
  all_goals have k := (emitSSInner_path orc _ _ _ _).of_eq ‹_›
  case case2 ih => exact k.trans ih
  case case3 => exact k

theorem stageSelfs_path (orc : Oracle) (m : Mach) (t : Tx) :
    Path False (RankIs 2) m t (stageSelfs orc m t).1 (stageSelfs orc m t).2.1 := by
  unfold stageSelfs
  split
  · exact emitSelfs_path orc _ _ _ m t
  · exact .refl

theorem stageAnyEnter_path (orc : Oracle) (m : Mach) (t : Tx) :
    Path False (RankIs 3) m t (stageAnyEnter orc m t).1 (stageAnyEnter orc m t).2.1 := by
  unfold stageAnyEnter
  split
  · exact .refl
  · exact handle_neg_path orc m t .anyEnter .any true

theorem negStep_path {G : Prop} {E : Ev → Prop} (f : Mach → Tx → Mach × Tx × Bool)
    (hf : ∀ m t, Path G E m t (f m t).1 (f m t).2.1) (p : Mach × Tx × Bool) :
    Path G E p.1 p.2.1 (negStep f p).1 (negStep f p).2.1 := by
  rcases negStep_cases f p with h | ⟨h1, h2, _⟩ | h
  · rw [h]; exact hf _ _
  · rw [h1, h2]; exact .refl
  · rw [h]; exact .refl

theorem negotiate_stages (orc : Oracle) (m : Mach) (t : Tx) (r : Bool) : ∃ m1 t1 m2 t2 m3 t3,
    Path False (RankIs 0) m t m1 t1 ∧ Path False (RankIs 1) m1 t1 m2 t2 ∧
    Path False (RankIs 2) m2 t2 m3 t3 ∧
    Path False (RankIs 3) m3 t3 (negotiate orc m t r).1 (negotiate orc m t r).2.1 := by
  cases hh : m.hasHandlers with
  | false =>
    simp only [negotiate, hh, Bool.not_false, if_true]
    exact ⟨_, _, _, _, _, _, .refl, .refl, .refl, .refl⟩
  | true =>
    simp only [negotiate, hh, Bool.not_true, Bool.false_eq_true, if_false]
    exact ⟨_, _, _, _, _, _, negStep_path _ (fun m t => emitExits_path orc _ m t) (m, t, r),
      negStep_path _ (fun m t => emitEnters_path orc _ m t) _,
      (negStep_path _ (stageSelfs_path orc) _).trans (negStep_path _ (fun m t => emitSS_path orc _ _ m t) _),
      negStep_path _ (stageAnyEnter_path orc) _⟩

theorem negotiate_path (orc : Oracle) (m : Mach) (t : Tx) (r : Bool) :
    Path False (fun _ => True) m t (negotiate orc m t r).1 (negotiate orc m t r).2.1 := by
  obtain ⟨_, _, _, _, _, _, p0, p1, p2, p3⟩ := negotiate_stages orc m t r
  have any : ∀ {k m t m' t'}, Path False (RankIs k) m t m' t' → Path False (fun _ => True) m t m' t' :=
    fun h => h.imp id (fun _ _ => trivial)
  exact (((any p0).trans (any p1)).trans (any p2)).trans (any p3)

section
variable {F : Prop}

theorem emitFinals_path (orc : Oracle) (hF : OrcF F orc) (enters l : S) (m : Mach) (t : Tx) :
    Path F (RankIs 4) m t (emitFinals orc enters l m t).1 (emitFinals orc enters l m t).2.1 ∧
    ((emitFinals orc enters l m t).2.2 = false → F ∧ FinalOk (emitFinals orc enters l m t).2.1) := by
  -- one iteration's call, a State or an End handler
  have call : ∀ {c : Prop} [Decidable c] {s : Nat} {m m1 : Mach} {t t1 : Tx} {ok : Bool},
      (if c then handle orc m t (.state s) (.st s) true true else handle orc m t (.end_ s) .none true false) =
        (m1, t1, ok) → Path F (RankIs 4) m t m1 t1 ∧ (ok = false → F ∧ FinalOk t1) := by
    intro c _ s m m1 t t1 ok x
    split at x
    · have h := handle_fin_path orc m t (.state s) (.st s) true hF rfl (.inl rfl); rw [x] at h; exact h
    · have h := handle_fin_path orc m t (.end_ s) .none false hF rfl (.inr rfl); rw [x] at h; exact h
  fun_induction emitFinals orc enters l m t
  case case1 => exact ⟨.refl, by simp⟩
  case case2 x ih => exact ⟨(call x).1.trans ih.1, ih.2⟩
  case case3 x hnok => exact ⟨(call x).1, fun _ => (call x).2 (by simpa using hnok)⟩

theorem runFinals_path (orc : Oracle) (hF : OrcF F orc) (m : Mach) (t : Tx) :
    Path F (RankIs 4) m t (runFinals orc m t).1 (runFinals orc m t).2.1 ∧
    ((runFinals orc m t).2.2 = false → F ∧ FinalOk (runFinals orc m t).2.1) := by
  unfold runFinals
  split
  · exact emitFinals_path orc hF _ _ m t
  · exact ⟨.refl, by simp⟩

end

/-- after the final handlers: recovery, `AnyState`, the auto mutation — a path of rank 5 — and
    then `TransitionEnd`. -/
theorem afterFinals_path {F : Prop} (orc : Oracle) (hF : OrcF F orc) (m4 : Mach) (t4 : Tx) (r4 : Bool)
    (hok : r4 = false → F ∧ FinalOk t4) :
    ∃ m6 t6 b, Path F (RankIs 5) m4 t4 m6 t6 ∧ afterFinals orc m4 t4 r4 = finish m6 t6 b := by
  simp only [afterFinals]
  have g5 : Path F (RankIs 5) m4 t4 (if (!r4) = true then recoverFinalPhase m4 t4 else m4) t4 := by
    split
    · rename_i h
      obtain ⟨f, ok⟩ := hok (by simpa using h)
      exact .recover f ok
    · exact .refl
  generalize (if (!r4) = true then recoverFinalPhase m4 t4 else m4) = m5 at g5 ⊢
  have g6 : Path F (RankIs 5) m5 t4
      (if (r4 && m5.hasHandlers) = true then handle orc m5 t4 .anyState .any true true else (m5, t4, r4)).1
      (if (r4 && m5.hasHandlers) = true then handle orc m5 t4 .anyState .any true true else (m5, t4, r4)).2.1 := by
    split
    · exact (handle_fin_path orc m5 t4 .anyState .any true hF rfl (.inl rfl)).1
    · exact .refl
  generalize (if (r4 && m5.hasHandlers) = true then
      handle orc m5 t4 .anyState .any true true else (m5, t4, r4)) = p6 at g6 ⊢
  split
  · exact ⟨_, _, _, (g5.trans g6).trans (.mark _ _ _ false), rfl⟩
  · refine ⟨_, _, _, (g5.trans g6).trans ?_, rfl⟩
    rcases autoStage_cases p6.1 p6.2.1 (m5.clock != t4.timeBefore) with h | ⟨am, h0, h⟩ <;> rw [h]
    · exact .refl
    · exact .pre am h0

theorem applyPhase_path {F : Prop} (orc : Oracle) (hF : OrcF F orc) (m1 : Mach) (t2 : Tx) :
    ∃ m4 t4 m6 t6 b, Path F (RankIs 4) (applyTarget m1 t2).1 (applyTarget m1 t2).2 m4 t4 ∧
      Path F (RankIs 5) m4 t4 m6 t6 ∧ applyPhase orc m1 t2 = finish m6 t6 b := by
  obtain ⟨g4, fo⟩ := runFinals_path orc hF (applyTarget m1 t2).1 (applyTarget m1 t2).2
  obtain ⟨m6, t6, b, g6, e⟩ := afterFinals_path orc hF _ _ _ fo
  exact ⟨_, _, m6, t6, b, g4, g6, e⟩

/-- `emitEvents` after the negotiation: the caller has crashed, or the transition is closed
    unapplied (canceled, or a check), or a mutation that is no check has survived and is applied. -/
theorem emitEvents_cases (orc : Oracle) (m0 : Mach) (t0 : Tx) :
    let p := negotiate orc (m0.emit (.tStart t0.accepted)) t0 t0.accepted
    (p.1.crashed = true ∧ (emitEvents orc m0 t0).1 = p.1) ∨
    (∃ t b, emitEvents orc m0 t0 = finish p.1 t b) ∨
    (p.2.1.mu.isCheck = false ∧ p.2.2 = true ∧
      emitEvents orc m0 t0 = applyPhase orc p.1 (recheckAuto p.1 p.2.1)) := by
  simp only [emitEvents]
  generalize negotiate orc (m0.emit (.tStart t0.accepted)) t0 t0.accepted = p
  -- `by_cases` and `if_pos`, not `split`: the statement holds three copies of the conditional
  by_cases hc : p.1.crashed = true
  · rw [if_pos hc]; exact .inl ⟨hc, rfl⟩
  · rw [if_neg hc]
    by_cases hk : p.2.1.mu.isCheck = true
    · rw [if_pos hk]; exact .inr (.inl ⟨_, _, rfl⟩)
    · rw [if_neg hk]
      by_cases hr : p.2.2 = true
      · rw [if_pos hr]; exact .inr (.inr ⟨by simpa using hk, hr, rfl⟩)
      · rw [if_neg hr]; exact .inr (.inl ⟨_, _, rfl⟩)

/-- after `emitEvents`, a transition only serves subscriptions. -/
theorem runOne_silent (orc : Oracle) (m : Mach) (mu : Mut) (rest : List Mut) :
    Silent (emitEvents orc (newTx (shiftQueue m mu rest) mu).1 (newTx (shiftQueue m mu rest) mu).2).1
      (runOne orc m mu rest).1 := by
  simp only [runOne]
  -- as a variable, or every `rfl` below unfolds the whole transition
  generalize emitEvents orc (newTx (shiftQueue m mu rest) mu).1 (newTx (shiftQueue m mu rest) mu).2 = q
  split
  · exact .refl _
  · split <;> exact .subs _ _

end Am
