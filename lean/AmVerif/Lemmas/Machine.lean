/-
  Equations of the sequential model (Model/Machine.lean): what its small functions return, stated
  once, so that the proofs about transitions rewrite with them instead of unfolding the model.
-/
import AmVerif.Model.Machine
import AmVerif.Lemmas.ListSet
namespace Am

theorem Mach.is_singleton (m : Mach) (s : Nat) : m.is [s] = true ↔ s < m.sch.n ∧ s ∈ m.active := by
  simp [Mach.is]

theorem Mach.not_singleton (m : Mach) (s : Nat) : m.not [s] = true ↔ s ∉ m.active := by
  rw [Mach.not, noneOf_iff]
  exact ⟨fun h hs => h s hs (List.mem_singleton_self s), fun h x hx e => h (List.mem_singleton.mp e ▸ hx)⟩

theorem applyActive_sch (m : Mach) (c t : S) : (applyActive m c t).sch = m.sch := rfl
theorem applyActive_active (m : Mach) (c t : S) : (applyActive m c t).active = t := rfl
theorem applyActive_topo (m : Mach) (c t : S) : (applyActive m c t).topo = m.topo := rfl
theorem recoverFinalPhase_sch (m : Mach) (t : Tx) : (recoverFinalPhase m t).sch = m.sch := rfl
theorem recoverFinalPhase_topo (m : Mach) (t : Tx) : (recoverFinalPhase m t).topo = m.topo := rfl

theorem queueMutation_eq (m : Mach) (r : MutReq) :
    queueMutation m r = (m, none) ∨ ∃ mu : Mut, mu.qtick = m.pending + 1 + m.queueTick ∧
      queueMutation m r =
        ({ m with queue := m.queue ++ [mu], pending := m.pending + 1 }.emit (.mq mu), some mu.qtick) := by
  simp only [queueMutation]
  split
  · exact .inl rfl
  · exact .inr ⟨_, rfl, rfl⟩

theorem queueMutation_crashed (m : Mach) (r : MutReq) : (queueMutation m r).1.crashed = m.crashed := by
  rcases queueMutation_eq m r with h | ⟨mu, -, h⟩ <;> rw [h] <;> rfl

theorem newAutoMutation_eq_some {m : Mach} {am : Mut} (h : newAutoMutation m = some am) :
    am.called ≠ [] ∧ am = { kind := .add, called := am.called, isAuto := true } ∧
    am.called = m.sch.idx.filter (fun s => isAutoState m s && !m.is [s] &&
      !(m.active.any (fun a => (m.sch.get a).remove.contains s))) := by
  simp only [newAutoMutation] at h
  split at h
  · nomatch h
  · next hne =>
    cases h
    exact ⟨fun he => hne (List.isEmpty_iff.2 he), rfl, rfl⟩

theorem newAutoMutation_qtick {m : Mach} {am : Mut} (h : newAutoMutation m = some am) : am.qtick = 0 := by
  rw [(newAutoMutation_eq_some h).2.1]

theorem autoStage_cases (m : Mach) (t : Tx) (c : Bool) :
    autoStage m t c = m ∨ ∃ am, am.qtick = 0 ∧ autoStage m t c = prepend m am := by
  unfold autoStage
  split
  · split
    · rename_i am h; exact Or.inr ⟨am, newAutoMutation_qtick h, rfl⟩
    · exact Or.inl rfl
  · exact Or.inl rfl

theorem setupAccepted_eq (m : Mach) (t : Tx) : ∃ a, setupAccepted m t = { t with accepted := a } := by
  -- a conditional between two such records is one, and the definition is five conditionals;
  -- `repeat' split` says the same and costs ten times as much
  have ite : ∀ (c : Prop) [Decidable c] (x y : Tx), (∃ a, x = { t with accepted := a }) →
      (∃ a, y = { t with accepted := a }) → ∃ a, (if c then x else y) = { t with accepted := a } := by
    intro c _ x y hx hy; split <;> assumption
  have h0 : ∃ a, t = { t with accepted := a } := ⟨_, rfl⟩
  obtain ⟨a1, e1⟩ := ite (t.mu.isAuto = true) _ _ ⟨false, rfl⟩ h0
  simp only [setupAccepted]
  rw [e1]
  exact ite _ _ _ h0 (ite _ _ _ h0 (ite _ _ _ ⟨_, rfl⟩ (ite _ _ _ ⟨_, rfl⟩ ⟨_, rfl⟩)))

@[simp] theorem setupAccepted_target (m : Mach) (t : Tx) : (setupAccepted m t).target = t.target := by
  obtain ⟨a, e⟩ := setupAccepted_eq m t; rw [e]

@[simp] theorem setupExitEnter_target (m : Mach) (t : Tx) : (setupExitEnter m t).target = t.target := rfl

/-- `recoverToErr` changes the record in `accepted` only. -/
theorem recoverToErr_tx (m : Mach) (t : Tx) :
    (recoverToErr m t).2 = { t with accepted := (recoverToErr m t).2.accepted } := by
  unfold recoverToErr
  split <;> rfl

theorem negStep_cases (f : Mach → Tx → Mach × Tx × Bool) (p : Mach × Tx × Bool) :
    negStep f p = f p.1 p.2.1 ∨ ((negStep f p).1 = p.1 ∧ (negStep f p).2.1 = p.2.1 ∧ (negStep f p).2.2 = false) ∨
      negStep f p = p := by
  unfold negStep
  split
  · exact Or.inr (Or.inl ⟨rfl, rfl, rfl⟩)
  · split
    · exact Or.inl rfl
    · exact Or.inr (Or.inr rfl)

theorem negStep_false (f : Mach → Tx → Mach × Tx × Bool) (p : Mach × Tx × Bool)
    (h : p.2.2 = false) : (negStep f p).2.2 = false := by
  unfold negStep
  split
  · rfl
  · split
    · rename_i h2; rw [h] at h2; exact absurd h2 (by simp)
    · exact h

theorem finish_fst (m : Mach) (t : Tx) (r : Bool) :
    (finish m t r).1 = m.emit (.tEnd t.timeBefore t.timeAfter t.accepted m.active m.queue.length) := by
  simp only [finish]
  split
  · rfl
  · split <;> rfl

theorem finish_snd (m : Mach) (t : Tx) (r : Bool) : (finish m t r).2.1 = t := by
  simp only [finish]
  split
  · rfl
  · split <;> rfl

end Am
