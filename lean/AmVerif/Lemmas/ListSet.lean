/- What the list-set functions compute: membership in `uniq`, `diff`, `shared`, the tests `every`,
   `noneOf`, `equal` as quantified statements, and `uniq`, `without`, the `SRem` fold as sublists of
   their input (whence `Nodup` is kept). -/
import AmVerif.Model.ListSet
namespace Am

@[simp] theorem mem_uniq {l : S} {x : Nat} : x ∈ uniq l ↔ x ∈ l := by
  induction l with
  | nil => simp [uniq]
  | cons a t ih => by_cases hx : x = a <;> simp [uniq, ih, hx]

theorem uniq_sublist (l : S) : (uniq l).Sublist l := by
  induction l with
  | nil => exact .refl _
  | cons a t ih => exact (List.filter_sublist.trans ih).cons_cons a

theorem nodup_uniq (l : S) : (uniq l).Nodup := by
  induction l with
  | nil => simp [uniq]
  | cons a t ih =>
    simp only [uniq, List.nodup_cons, List.mem_filter]
    exact ⟨fun h => by simp at h, ih.filter _⟩

theorem uniq_of_nodup {l : S} (h : l.Nodup) : uniq l = l := by
  induction l with
  | nil => rfl
  | cons a t ih =>
    rw [List.nodup_cons] at h
    rw [uniq, ih h.2, List.filter_eq_self.2]
    intro y hy
    have : y ≠ a := fun e => h.1 (e ▸ hy)
    simpa using this

@[simp] theorem mem_diff {a b : S} {x : Nat} : x ∈ diff a b ↔ x ∈ a ∧ x ∉ b := by
  simp [diff]

@[simp] theorem mem_shared {a b : S} {x : Nat} : x ∈ shared a b ↔ x ∈ a ∧ x ∈ b := by
  simp [shared]

theorem nodup_diff {a : S} (b : S) (h : a.Nodup) : (diff a b).Nodup := h.filter _

theorem every_iff {a b : S} : every a b = true ↔ ∀ x ∈ b, x ∈ a := by
  simp [every]

theorem noneOf_iff {a b : S} : noneOf a b = true ↔ ∀ x ∈ b, x ∉ a := by
  simp [noneOf]

theorem equal_iff {a b : S} : equal a b = true ↔ ∀ x, x ∈ a ↔ x ∈ b := by
  simp only [equal, Bool.and_eq_true, every_iff]
  exact ⟨fun h x => ⟨h.2 x, h.1 x⟩, fun h => ⟨fun x => (h x).2, fun x => (h x).1⟩⟩

theorem without_sublist (l : S) (x : Nat) : (without l x).Sublist l := List.erase_sublist

theorem foldl_without_sublist (rm l : S) : (rm.foldl without l).Sublist l := by
  induction rm generalizing l with
  | nil => exact .refl _
  | cons r rs ih => exact (ih _).trans (without_sublist l r)

theorem mem_of_mem_without {l : S} {x y : Nat} (h : y ∈ without l x) : y ∈ l :=
  (without_sublist l x).subset h

theorem nodup_without {l : S} (x : Nat) (h : l.Nodup) : (without l x).Nodup :=
  (without_sublist l x).nodup h

theorem nodup_foldl_without (rm : S) : ∀ (l : S), l.Nodup → (rm.foldl without l).Nodup :=
  fun l h => (foldl_without_sublist rm l).nodup h

theorem mem_without_of_nodup {l : S} {x y : Nat} (h : l.Nodup) :
    y ∈ without l x ↔ y ≠ x ∧ y ∈ l := h.mem_erase_iff

/-- `sRem` on a duplicate-free source is set difference. -/
theorem mem_foldl_without_nodup (rm l : S) (hl : l.Nodup) (x : Nat) :
    x ∈ rm.foldl without l ↔ x ∈ l ∧ x ∉ rm := by
  induction rm generalizing l with
  | nil => simp
  | cons r rs ih =>
    rw [List.foldl_cons, ih _ (nodup_without r hl), mem_without_of_nodup hl, List.mem_cons, not_or,
      and_assoc, and_left_comm]

end Am
