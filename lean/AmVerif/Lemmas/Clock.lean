/- `setActiveStates` arithmetic: exact tick formula, parity, monotonicity. -/
import AmVerif.Model.Machine
import AmVerif.Lemmas.ListSet
namespace Am

theorem getD_incr (c : List Nat) (i j d : Nat) :
    (incr c i d).getD j 0 = if i = j ∧ i < c.length then c.getD j 0 + d else c.getD j 0 := by
  simp only [incr, List.getD_eq_getElem?_getD, List.getElem?_modify]
  by_cases h : i = j
  · subst h
    by_cases h2 : i < c.length <;> simp [h2]
  · simp [h]

@[simp] theorem length_incr (c : List Nat) (i d : Nat) : (incr c i d).length = c.length := by
  simp [incr]

theorem length_foldl_incr (d : Nat → Nat) (l : S) : ∀ c : List Nat,
    (l.foldl (fun c x => incr c x (d x)) c).length = c.length := by
  induction l with
  | nil => intro c; rfl
  | cons a t ih => intro c; simp [List.foldl_cons, ih]

theorem getD_foldl_incr (d : Nat → Nat) (l : S) (hl : l.Nodup) : ∀ (c : List Nat) (j : Nat),
    j < c.length →
    (l.foldl (fun c x => incr c x (d x)) c).getD j 0 =
      c.getD j 0 + (if j ∈ l then d j else 0) := by
  induction l with
  | nil => intro c j _; simp
  | cons a t ih =>
    intro c j hj
    rw [List.nodup_cons] at hl
    simp only [List.foldl_cons]
    rw [ih hl.2 (incr c a (d a)) j (by simpa using hj), getD_incr]
    by_cases haj : a = j
    · subst haj
      simp [hl.1, hj]
    · simp [haj, Ne.symm haj]

theorem sum_incr : ∀ (c : List Nat) (i d : Nat), i < c.length → (incr c i d).sum = c.sum + d
  | a :: t, 0, d, _ => by
    show (a + d) + t.sum = (a + t.sum) + d
    exact Nat.add_right_comm a d t.sum
  | a :: t, k + 1, d, h => by
    show a + (incr t k d).sum = (a + t.sum) + d
    rw [sum_incr t k d (Nat.lt_of_succ_lt_succ h), Nat.add_assoc]

theorem incr_zero (c : List Nat) (i : Nat) : incr c i 0 = c := List.modify_id i c

theorem sum_foldl_incr (d : Nat → Nat) (l : List Nat) : ∀ (c : List Nat),
    (∀ p ∈ l, p < c.length) →
    (l.foldl (fun c x => incr c x (d x)) c).sum = c.sum + (l.map d).sum := by
  induction l with
  | nil => intro c _; simp
  | cons a t ih =>
    intro c h
    simp only [List.foldl_cons, List.map_cons, List.sum_cons]
    rw [ih _ (by intro p hp; simpa using h p (List.mem_cons_of_mem _ hp)), sum_incr c a (d a) (h a (by simp))]
    omega

theorem length_tickClock (sch : Schema) (active : S) (clock : List Nat) (called target : S) :
    (tickClock sch active clock called target).length = clock.length := by
  unfold tickClock
  rw [length_foldl_incr (fun _ => 1), length_foldl_incr]

theorem tickDelta_eq (sch : Schema) (active called : S) (j : Nat) :
    tickDelta sch active called j =
      if j ∉ active then 1 else if j ∈ called ∧ (sch.get j).multi = true then 2 else 0 := by
  simp [tickDelta]

theorem tickDelta_le (sch : Schema) (active called : S) (j : Nat) :
    tickDelta sch active called j ≤ 2 := by
  rw [tickDelta_eq]
  split
  · decide
  · split <;> decide

/-- the exact tick formula of `setActiveStates`, in the documented form: +1 iff
    activity flipped, +2 iff an active, directly called Multi state stays active. ("flipped" is
    written as the end result `C01_documented_step` has it, an inequality of propositions.) -/
theorem getD_tickClock (sch : Schema) (active : S) (clock : List Nat) (called target : S)
    (ht : target.Nodup) (ha : active.Nodup) (j : Nat) (hj : j < clock.length) :
    (tickClock sch active clock called target).getD j 0 =
      clock.getD j 0 +
        if (j ∈ active) ≠ (j ∈ target) then 1
        else if j ∈ active ∧ j ∈ target ∧ j ∈ called ∧ (sch.get j).multi = true then 2
        else 0 := by
  unfold tickClock
  rw [getD_foldl_incr (fun _ => 1) _ (nodup_diff _ ha) _ j (by rw [length_foldl_incr]; exact hj),
    getD_foldl_incr _ _ ht _ j hj, tickDelta_eq, Nat.add_assoc]
  by_cases h1 : j ∈ target <;> by_cases h2 : j ∈ active <;> simp [h1, h2]

/-- activity ↔ odd tick, for the states the clock has a slot for. -/
def Parity (active : S) (clock : List Nat) : Prop :=
  ∀ j, j < clock.length → (j ∈ active ↔ clock.getD j 0 % 2 = 1)

theorem add_one_mod_two_eq_one (v : Nat) : (v + 1) % 2 = 1 ↔ ¬ v % 2 = 1 := by
  rcases Nat.mod_two_eq_zero_or_one v with h | h <;> simp [Nat.add_mod, h]

/-- `setActiveStates` keeps tick parity = activity: a flip adds 1, no flip adds 2 or 0. -/
theorem parity_tickClock (sch : Schema) (active : S) (clock : List Nat) (called target : S)
    (ht : target.Nodup) (ha : active.Nodup) (hp : Parity active clock) :
    Parity target (tickClock sch active clock called target) := by
  intro j hj
  rw [length_tickClock] at hj
  rw [getD_tickClock sch active clock called target ht ha j hj]
  have hpj := hp j hj
  split
  · next hne =>
    rw [add_one_mod_two_eq_one, ← hpj]
    exact (Classical.not_iff.1 fun h => hne (propext h)).symm
  · next he =>
    have hpt := (Iff.of_eq (Classical.not_not.1 he)).symm.trans hpj
    split
    · rwa [Nat.add_mod_right]
    · exact hpt

theorem mono_tickClock (sch : Schema) (active : S) (clock : List Nat) (called target : S)
    (ht : target.Nodup) (ha : active.Nodup) (j : Nat) (hj : j < clock.length) :
    clock.getD j 0 ≤ (tickClock sch active clock called target).getD j 0 := by
  rw [getD_tickClock sch active clock called target ht ha j hj]; omega

end Am
