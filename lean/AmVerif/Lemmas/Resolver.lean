/- What the resolver's functions compute: insertion sort permutes; `parseRequire` is a filter
   iterated to the greatest Require-closed subset of its input; `targetStates` permutes
   `targetUnsorted`; what the two sorting passes guarantee; where the members of a target come from. -/
import AmVerif.Model.Resolver
import AmVerif.Lemmas.ListSet
namespace Am

theorem insertRev_perm (less : Nat → Nat → Bool) (x : Nat) (l : S) :
    (insertRev less x l).Perm (x :: l) := by
  induction l with
  | nil => exact .refl _
  | cons y ys ih =>
    simp only [insertRev]
    split
    · exact (ih.cons y).trans (.swap x y ys)
    · exact .refl _

@[simp] theorem mem_insertRev {less : Nat → Nat → Bool} {x y : Nat} {l : S} :
    y ∈ insertRev less x l ↔ y = x ∨ y ∈ l :=
  (insertRev_perm less x l).mem_iff.trans List.mem_cons

theorem foldl_insertRev_perm (less : Nat → Nat → Bool) (l acc : S) :
    (l.foldl (fun acc x => insertRev less x acc) acc).Perm (l.reverse ++ acc) := by
  induction l generalizing acc with
  | nil => exact .refl _
  | cons x xs ih =>
    rw [List.foldl_cons, List.reverse_cons, List.append_assoc]
    exact (ih _).trans ((insertRev_perm less x acc).append_left _)

theorem isort_perm (less : Nat → Nat → Bool) (l : S) : (isort less l).Perm l := by
  have h := foldl_insertRev_perm less l []
  rw [List.append_nil] at h
  exact (List.reverse_perm _).trans (h.trans (List.reverse_perm l))

@[simp] theorem mem_isort {less : Nat → Nat → Bool} {l : S} {x : Nat} :
    x ∈ isort less l ↔ x ∈ l := (isort_perm less l).mem_iff

theorem sortStates_perm (sch : Schema) (topo l : S) : (sortStates sch topo l).Perm l :=
  (isort_perm _ _).trans (isort_perm _ _)

@[simp] theorem mem_sortStates {sch : Schema} {topo l : S} {x : Nat} :
    x ∈ sortStates sch topo l ↔ x ∈ l := (sortStates_perm sch topo l).mem_iff

theorem reqPass_sublist (sch : Schema) (l : S) : (reqPass sch l).Sublist l :=
  List.filter_sublist

/-- closed under Require. -/
def ReqClosed (sch : Schema) (l : S) : Prop :=
  ∀ x ∈ l, ∀ r ∈ (sch.get x).require, r ∈ l

theorem mem_reqPass {sch : Schema} {l : S} {x : Nat} :
    x ∈ reqPass sch l ↔ x ∈ l ∧ ∀ r ∈ (sch.get x).require, r ∈ l := by
  simp [reqPass]

theorem reqPass_eq_self {sch : Schema} {l : S} : reqPass sch l = l ↔ ReqClosed sch l := by
  simp [reqPass, ReqClosed, List.filter_eq_self]

theorem parseRequireLoop_sublist (sch : Schema) (fuel : Nat) (l : S) :
    (parseRequireLoop sch fuel l).Sublist l := by
  fun_induction parseRequireLoop sch fuel l with
  | case1 l => exact .refl _
  | case2 fuel l next _ => exact reqPass_sublist sch l
  | case3 fuel l next _ ih => exact ih.trans (reqPass_sublist sch l)

/-- every pass but the last shortens the list, so `length + 1` passes reach a fixpoint. -/
theorem parseRequireLoop_closed (sch : Schema) (fuel : Nat) (l : S) (hl : l.length < fuel) :
    ReqClosed sch (parseRequireLoop sch fuel l) := by
  fun_induction parseRequireLoop sch fuel l with
  | case1 l => omega
  | case2 fuel l next heq =>
    have e : next = l := (reqPass_sublist sch l).eq_of_length (by simpa using heq)
    exact e ▸ reqPass_eq_self.1 e
  | case3 fuel l next hne ih =>
    have : next.length ≤ l.length := (reqPass_sublist sch l).length_le
    exact ih (by simp only [beq_iff_eq] at hne; omega)

theorem parseRequireLoop_greatest (sch : Schema) (c : S) (hc : ReqClosed sch c) (fuel : Nat) (l : S)
    (h : ∀ x ∈ c, x ∈ l) : ∀ x ∈ c, x ∈ parseRequireLoop sch fuel l := by
  have hpass : ∀ l : S, (∀ x ∈ c, x ∈ l) → ∀ x ∈ c, x ∈ reqPass sch l := fun l h x hx =>
    mem_reqPass.2 ⟨h x hx, fun r hr => h r (hc x hx r hr)⟩
  fun_induction parseRequireLoop sch fuel l with
  | case1 l => exact h
  | case2 fuel l next _ => exact hpass l h
  | case3 fuel l next _ ih => exact ih (hpass l h)

theorem parseRequire_sublist (sch : Schema) (l : S) : (parseRequire sch l).Sublist l :=
  parseRequireLoop_sublist sch _ l

theorem parseRequire_closed (sch : Schema) (l : S) : ReqClosed sch (parseRequire sch l) :=
  parseRequireLoop_closed sch _ l (Nat.lt_succ_self _)

/-- monotone in the input set: the result is the largest closed subset. -/
theorem parseRequire_mono (sch : Schema) (l1 l2 : S) (h : ∀ x ∈ l1, x ∈ l2) :
    ∀ x ∈ parseRequire sch l1, x ∈ parseRequire sch l2 :=
  parseRequireLoop_greatest sch _ (parseRequire_closed sch l1) _ l2
    (fun x hx => h x ((parseRequire_sublist sch l1).subset hx))

theorem targetStates_perm (c : RCtx) (toSet : S) :
    (targetStates c toSet).Perm (targetUnsorted c toSet) := sortStates_perm _ _ _

theorem targetStates_closed (c : RCtx) (toSet : S) : ReqClosed c.sch (targetStates c toSet) := by
  intro x hx r hr
  rw [(targetStates_perm c toSet).mem_iff] at hx ⊢
  exact parseRequire_closed _ _ x hx r hr

theorem targetStates_nodup (c : RCtx) (toSet : S) : (targetStates c toSet).Nodup :=
  (targetStates_perm c toSet).nodup_iff.2 <|
    (parseRequire_sublist _ _).nodup ((List.reverse_perm _).nodup_iff.2 (nodup_uniq _))

/-- a list in which no element is `less` than an earlier one is left alone: every insertion
    stops at once. (`acc.reverse ++ l` is that list: what has been inserted, then the rest.) -/
theorem foldl_insertRev_id (less : Nat → Nat → Bool) (l acc : S)
    (h : (acc.reverse ++ l).Pairwise (fun a b => less b a = false)) :
    l.foldl (fun acc x => insertRev less x acc) acc = l.reverse ++ acc := by
  induction l generalizing acc with
  | nil => rfl
  | cons a t ih =>
    have ha : insertRev less a acc = a :: acc := by
      cases acc with
      | nil => rfl
      | cons y ys => simp [insertRev, (List.pairwise_append.1 h).2.2 y (by simp) a (.head _)]
    rw [List.foldl_cons, ha, List.reverse_cons, List.append_assoc]
    exact ih _ (by rwa [List.reverse_cons, List.append_assoc])

theorem isort_id_of_false (less : Nat → Nat → Bool) (l : S)
    (h : ∀ x y, x ∈ l → y ∈ l → less x y = false) : isort less l = l := by
  unfold isort
  rw [foldl_insertRev_id less l [] (List.pairwise_of_forall_mem_list fun a ha b hb => h b a hb ha),
    List.append_nil, List.reverse_reverse]

/-- insertion sort by a key: the reversed prefix stays sorted descending. -/
theorem insertRev_sorted (key : Nat → Nat) (x : Nat) (l : S)
    (h : l.Pairwise (fun a b => key b ≤ key a)) :
    (insertRev (fun a b => key a < key b) x l).Pairwise (fun a b => key b ≤ key a) := by
  induction l with
  | nil => simp [insertRev]
  | cons y ys ih =>
    rw [List.pairwise_cons] at h
    simp only [insertRev, decide_eq_true_eq]
    split
    · next hlt =>
      refine List.pairwise_cons.2 ⟨fun z hz => ?_, ih h.2⟩
      rcases mem_insertRev.1 hz with rfl | hz
      · exact Nat.le_of_lt hlt
      · exact h.1 z hz
    · next hge =>
      refine List.pairwise_cons.2 ⟨fun z hz => ?_, List.pairwise_cons.2 h⟩
      rcases List.mem_cons.1 hz with rfl | hz
      · exact Nat.le_of_not_lt hge
      · exact Nat.le_trans (h.1 z hz) (Nat.le_of_not_lt hge)

theorem sortRequire_sorted (topo l : S) :
    (sortRequire topo l).Pairwise (fun a b => topoKey topo a ≤ topoKey topo b) := by
  unfold sortRequire isort
  rw [List.pairwise_reverse]
  -- the fold keeps any sorted accumulator sorted; it starts from `[]`
  generalize ([] : S) = acc, List.Pairwise.nil = hacc
  induction l generalizing acc with
  | nil => exact hacc
  | cons a t ih => exact ih _ (insertRev_sorted (topoKey topo) a acc hacc)

/-- `z` appears in some state's Add relation. -/
def IsAddTarget (sch : Schema) (z : Nat) : Prop := ∃ w, z ∈ (sch.get w).add

/-- a missing key reads as the zero `State`. -/
theorem Schema.get_mem_or_default (s : Schema) (i : Nat) : s.get i ∈ s.states ∨ s.get i = {} := by
  unfold Schema.get
  rw [List.getD_eq_getElem?_getD]
  cases h : s.states[i]? with
  | none => exact .inr rfl
  | some d => exact .inl (List.mem_of_getElem? h)

theorem IsAddTarget.mem_flatten {sch : Schema} {z : Nat} (h : IsAddTarget sch z) :
    z ∈ (sch.states.map (·.add)).flatten := by
  obtain ⟨w, hw⟩ := h
  rcases sch.get_mem_or_default w with hd | hd
  · exact List.mem_flatten.2 ⟨_, List.mem_map_of_mem hd, hw⟩
  · rw [hd] at hw; cases hw

theorem mem_addStatesOf {c : RCtx} {name z : Nat} (h : z ∈ addStatesOf c name) :
    IsAddTarget c.sch z := ⟨name, (List.mem_filter.1 h).1⟩

theorem parseAddPass_forall {c : RCtx} {P : Nat → Prop} (hadd : ∀ n, ∀ z ∈ addStatesOf c n, P z)
    (snap ret visited : S) (ch : Bool) (h : ∀ z ∈ ret, P z) :
    ∀ z ∈ (parseAddPass c snap ret visited ch).1, P z := by
  -- the branches of the definition in order: done; three ways to skip a name; the name's Add list is appended
  fun_induction parseAddPass c snap ret visited ch with
  | case1 => exact h
  | case2 _ _ _ _ _ _ ih => exact ih h
  | case3 _ _ _ _ _ _ _ ih => exact ih h
  | case4 _ _ _ _ _ _ _ _ _ ih => exact ih h
  | case5 name _ _ _ _ _ _ _ _ ih => exact ih (List.forall_mem_append.2 ⟨h, hadd name⟩)

theorem parseAddLoop_forall {c : RCtx} {P : Nat → Prop} (hadd : ∀ n, ∀ z ∈ addStatesOf c n, P z)
    (fuel : Nat) (ret visited : S) (h : ∀ z ∈ ret, P z) :
    ∀ z ∈ parseAddLoop c fuel ret visited, P z := by
  fun_induction parseAddLoop c fuel ret visited with
  | case1 => exact h
  | case2 _ ret visited _ _ heq ih =>
    exact ih (by simpa only [heq] using parseAddPass_forall hadd ret ret visited false h)
  | case3 _ ret visited _ _ _ heq _ =>
    simpa only [heq] using parseAddPass_forall hadd ret ret visited false h

theorem mem_parseAdd {c : RCtx} {l : S} {z : Nat} (h : z ∈ parseAdd c l) :
    z ∈ l ∨ IsAddTarget c.sch z :=
  parseAddLoop_forall (P := fun z => z ∈ l ∨ IsAddTarget c.sch z)
    (fun _ _ hz => .inr (mem_addStatesOf hz)) _ l [] (fun _ hz => .inl hz) z h

/-- survivors of the reverse scan of `TargetStates`. -/
def scanSurvivors (c : RCtx) (toSet : S) : S :=
  let s1 := parseRequire c.sch (uniq (parseAdd c toSet))
  scanBlocked c.sch s1 s1.reverse []

/-- a state of the target is a survivor of the reverse scan, or an Add target;
    and no survivor Removes it. -/
theorem mem_targetStates_cases {c : RCtx} {toSet : S} {z : Nat} (h : z ∈ targetStates c toSet) :
    (z ∈ scanSurvivors c toSet ∨ IsAddTarget c.sch z) ∧
      ∀ x ∈ scanSurvivors c toSet, z ∉ (c.sch.get x).remove := by
  rw [(targetStates_perm c toSet).mem_iff] at h
  -- without its last `parseRequire`, `targetUnsorted` is `uniq` of the `parseAdd` of the survivors
  -- minus everything a survivor Removes, reversed
  have h2 := (parseRequire_sublist _ _).subset h
  simp only [List.mem_reverse, mem_uniq, List.mem_filter, Bool.not_eq_true', List.contains_eq_mem,
    decide_eq_false_iff_not, List.mem_flatten, List.mem_map] at h2
  exact ⟨mem_parseAdd h2.1, fun x hx hz => h2.2 ⟨_, ⟨x, hx, rfl⟩, hz⟩⟩

/-- a state of the target that Removes another state of the target is an Add target: it did not
    survive the scan, so the second `parseAdd` brought it back. -/
theorem isAddTarget_of_remove_mem {c : RCtx} {toSet : S} {x y : Nat} (hx : x ∈ targetStates c toSet)
    (hy : y ∈ targetStates c toSet) (hr : y ∈ (c.sch.get x).remove) : IsAddTarget c.sch x :=
  (mem_targetStates_cases hx).1.resolve_left fun sx => (mem_targetStates_cases hy).2 x sx hr

end Am
