/-
  The static check of a regenerated schema, with its one quadratic piece — "the typed name list
  names exactly the schema's keys", 2·n² string comparisons — decided from a certificate: the
  position of every typed name in the key list, which the extractor knows. The strings are then
  only compared with themselves (`rfl` between literals); the rest is arithmetic.
-/
import AmVerif.Model.SchemaParse
namespace Am.GenSchema

/-- the key list `typedAgrees` compares with. -/
def allKeys (g : GenSchema) : List String :=
  if g.implicitExc.isSome then g.keys ++ ["Exception"] else g.keys

/-- the set of positions as a bit mask: the kernel computes with big numbers, so comparing the mask
    with `2 ^ n - 1` tests "the members of `pos` are exactly the indices below `n`" in one pass over
    `pos`, where a membership test per index is quadratic. -/
def mask (pos : List Nat) : Nat := pos.foldl (fun a i => a ||| 2 ^ i) 0

theorem testBit_foldl_or (pos : List Nat) (k : Nat) : ∀ a,
    (pos.foldl (fun a i => a ||| 2 ^ i) a).testBit k = (a.testBit k || pos.contains k) := by
  induction pos with
  | nil => intro a; simp
  | cons i l ih =>
    intro a
    rw [List.foldl_cons, ih, Nat.testBit_or, Nat.testBit_two_pow, List.contains_cons, Bool.or_assoc]
    cases h : k == i
    · rw [decide_eq_false (fun e => by simp [e] at h)]
    · rw [decide_eq_true (beq_iff_eq.1 h).symm]

theorem mem_of_mask {n : Nat} {pos : List Nat} (h : mask pos = 2 ^ n - 1) (k : Nat) : k ∈ pos ↔ k < n := by
  have := congrArg (·.testBit k) h
  simpa [mask, testBit_foldl_or, Nat.testBit_two_pow_sub_one] using this

/-- `n` positions, and every index below `n` among them. -/
def isPerm (n : Nat) (pos : List Nat) : Bool := pos.length == n && mask pos == 2 ^ n - 1

theorem agrees_of_isPerm {keys : List String} {pos : List Nat} (h : isPerm keys.length pos = true) :
    let typed := pos.map (keys.getD · "")
    (typed.all (keys.contains ·) && keys.all (typed.contains ·) && typed.length == keys.length) = true := by
  simp only [isPerm, Bool.and_eq_true, beq_iff_eq] at h
  obtain ⟨hlen, hm⟩ := h
  simp only [Bool.and_eq_true, List.all_eq_true, List.contains_iff_mem, List.mem_map, beq_iff_eq,
    List.length_map]
  refine ⟨⟨?_, ?_⟩, hlen⟩
  · rintro _ ⟨i, hi, rfl⟩
    have := (mem_of_mask hm i).1 hi
    simp [List.getD_eq_getElem?_getD, this]
  · intro k hk
    obtain ⟨i, hi, rfl⟩ := List.mem_iff_getElem.1 hk
    exact ⟨i, (mem_of_mask hm i).2 hi, by simp [List.getD_eq_getElem?_getD, hi]⟩

/-- `check` without `typedAgrees`. -/
def checkRest (g : GenSchema) : Bool :=
  g.names.length == g.raw.length && g.raw.length == g.parsed.length &&
  !g.parseErr && g.parseAgrees && g.refsDefined && g.noRequireRemoveConflict && requireAcyclic g.schema

theorem check_of_pos (g : GenSchema) (pos : List Nat) (hty : g.typed = pos.map (g.allKeys.getD · ""))
    (h : (g.checkRest && (pos.isEmpty || isPerm g.allKeys.length pos)) = true) : g.check = true := by
  simp only [Bool.and_eq_true] at h
  have ht : g.typedAgrees = true := by
    show (g.typed.isEmpty || (g.typed.all (g.allKeys.contains ·) && g.allKeys.all (g.typed.contains ·) &&
      g.typed.length == g.allKeys.length)) = true
    rw [hty]
    rcases Bool.or_eq_true_iff.1 h.2 with he | hp
    · rw [List.isEmpty_iff.1 he]; rfl
    · rw [agrees_of_isPerm hp, Bool.or_true]
  have hr := h.1
  simp only [checkRest, Bool.and_eq_true] at hr
  simp only [check, Bool.and_eq_true]
  exact ⟨⟨hr.1, ht⟩, hr.2⟩

end Am.GenSchema
