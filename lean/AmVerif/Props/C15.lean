/-
  C15 — supervision keeps the pool within bounds, never calls a short pool
  ready. Property theorems (bookkeeping part); the state-group part is C19's
  generated obligations for the shipped supervisor / worker schemas.
-/
import AmVerif.Model.Super
namespace Am.Super

/-- PoolReady changes in two ways only: an Add made while at least `min()` workers are ready
    sets it, a Remove made while fewer are ready clears it. -/
theorem poolReady_changes (c : Cfg) (s : St) (e : Ev) (h : (step c s e).1.poolReady ≠ s.poolReady) :
    (∃ ready, e = .addPoolReady ready ∧ s.poolReady = false ∧ ready ≥ c.minEff) ∨
    (∃ ready, e = .remPoolReady ready ∧ s.poolReady = true ∧ ready < c.minEff) := by
  cases e <;> simp only [step] at h
  case forkFailed | delWorker => exact absurd rfl h
  case forkGate | setWorker | workerForked => split at h <;> exact absurd rfl h
  case errWorker a =>
    split at h
    · exact absurd rfl h
    · split at h <;> exact absurd rfl h
  case addPoolReady ready =>
    split at h
    · exact absurd rfl h
    · split at h
      · exact .inl ⟨ready, rfl, Bool.not_eq_true _ |>.mp ‹_›, ‹_›⟩
      · exact absurd rfl h
  case remPoolReady ready =>
    split at h
    · exact absurd rfl h
    · split at h
      · exact .inr ⟨ready, rfl, by simpa using ‹¬(!s.poolReady) = true›, ‹_›⟩
      · exact absurd rfl h

/-- **C15 (PoolReady only when enough are ready)**: the only step that activates
    PoolReady is an Add of PoolReady made while at least `min()` workers are ready. -/
theorem C15_poolready_enter (c : Cfg) (s : St) (e : Ev)
    (h0 : s.poolReady = false) (h1 : (step c s e).1.poolReady = true) :
    ∃ ready, e = .addPoolReady ready ∧ ready ≥ c.minEff := by
  rcases poolReady_changes c s e (by rw [h0, h1]; decide) with ⟨r, he, _, hr⟩ | ⟨_, _, ht, _⟩
  · exact ⟨r, he, hr⟩
  · rw [h0] at ht; cases ht

/-- **C15 (PoolReady is not withdrawn while enough are ready)**: the only step that
    deactivates PoolReady is a Remove made while fewer than `min()` workers are
    ready; with `min()` ready the removal is vetoed. -/
theorem C15_poolready_exit (c : Cfg) (s : St) (e : Ev)
    (h0 : s.poolReady = true) (h1 : (step c s e).1.poolReady = false) :
    ∃ ready, e = .remPoolReady ready ∧ ready < c.minEff := by
  rcases poolReady_changes c s e (by rw [h0, h1]; decide) with ⟨_, _, hf, _⟩ | ⟨r, he, _, hr⟩
  · rw [h0] at hf; cases hf
  · exact ⟨r, he, hr⟩

theorem C15_poolready_exit_vetoed (c : Cfg) (s : St) (ready : Nat)
    (h0 : s.poolReady = true) (hr : ready ≥ c.minEff) :
    step c s (.remPoolReady ready) = (s, .vetoed) := by
  simp [step, h0, Nat.not_lt.2 hr]

/-- **C15 (never forks while at Max)**: the fork gate is closed whenever the
    supervisor tracks `Max` workers or more. -/
theorem C15_fork_gate_closed (c : Cfg) (s : St) (a : Nat) (h : s.tracked.length ≥ c.max) :
    step c s (.forkGate a) = (s, .vetoed) := by
  simp only [step, if_neg (Nat.not_lt.2 h)]

/-- **C15 (too many errors ⇒ kill requested)**: the error that takes a tracked
    worker's count above `WorkerErrKill` requests its kill. -/
theorem C15_kill_requested (c : Cfg) (s : St) (a n : Nat)
    (hw : s.tracked.find? (fun w => w.1 == a) = some (a, n)) (hn : n + 1 > c.errKill) :
    (step c s (.errWorker a)).2 = .kill a ∧ a ∈ (step c s (.errWorker a)).1.killReq := by
  simp [step, hw, hn]

/-- the map after a write: the entries failing `p` go, `x` comes. -/
theorem length_filter_concat_le {α : Type} (p : α → Bool) (l : List α) (x : α) :
    (l.filter p ++ [x]).length ≤ l.length + 1 :=
  List.length_append ▸ Nat.succ_le_succ (List.length_filter_le p l)

/-- overwriting an entry that is there does not grow the map. -/
theorem length_filter_concat_le_of_mem {α : Type} {p : α → Bool} {l : List α} {w : α} (hw : w ∈ l)
    (hp : p w = false) (x : α) : (l.filter p ++ [x]).length ≤ l.length :=
  List.length_append ▸ Nat.succ_le_of_lt
    (List.length_filter_lt_length_iff_exists.mpr ⟨w, hw, by simp [hp]⟩)

/-- one step never takes the map beyond Max. -/
theorem within_step (c : Cfg) (s : St) (e : Ev) (hw : s.tracked.length ≤ c.max) :
    (step c s e).1.tracked.length ≤ c.max := by
  cases e <;> simp only [step]
  case forkGate a =>
    split
    · exact Nat.le_trans (length_filter_concat_le ..) ‹_›
    · exact hw
  case setWorker a =>
    split
    · rename_i h
      rcases (Bool.or_eq_true ..).mp h with ht | hlt
      · obtain ⟨w, hin, hwa⟩ := List.any_eq_true.mp ht
        exact Nat.le_trans (length_filter_concat_le_of_mem hin (by simpa using hwa) _) hw
      · exact Nat.le_trans (length_filter_concat_le ..) (of_decide_eq_true hlt)
    · exact hw
  case forkFailed => exact hw
  case delWorker a => exact Nat.le_trans (List.length_filter_le ..) hw
  case workerForked a b =>
    split
    · exact hw
    · rename_i w hf
      have hwa : w.1 = a := by simpa using List.find?_some hf
      exact Nat.le_trans (length_filter_concat_le_of_mem (List.mem_of_find?_eq_some hf) (by simp [hwa]) _) hw
  case errWorker a =>
    split
    · exact hw
    · split <;> exact Nat.le_trans (Nat.le_of_eq (List.length_map ..)) hw
  case addPoolReady | remPoolReady =>
    split
    · exact hw
    · split <;> exact hw

/-- **C15 (never more than Max tracked)**: after every sequence of fork requests,
    registrations, failures, kills, address switches, errors and PoolReady attempts,
    in any order, the supervisor tracks at most Max workers (fix 06f8e10: a fork is
    tracked from the moment it passes the gate, SetWorker adds no new entry at Max). -/
theorem C15_tracked_le_max (c : Cfg) (evs : List Ev) :
    ∀ s, s.tracked.length ≤ c.max → (run c s evs).tracked.length ≤ c.max := fun _ hw =>
  List.foldlRecOn (motive := fun s => s.tracked.length ≤ c.max) evs _ hw fun s hs e _ => within_step c s e hs

theorem C15_tracked_le_max_init (c : Cfg) (evs : List Ev) : (run c {} evs).tracked.length ≤ c.max :=
  C15_tracked_le_max c evs {} (by simp)

/-- **C15 (never forks while at Max)**, as a fact about histories: a fork that is
    let through found fewer than Max workers tracked - forks in flight included,
    because they are tracked. -/
theorem C15_fork_passes_below_max (c : Cfg) (s : St) (a : Nat) (h : (step c s (.forkGate a)).2 = .ok) :
    s.tracked.length < c.max :=
  Decidable.by_contra fun hn => by
    rw [C15_fork_gate_closed c s a (Nat.not_lt.1 hn)] at h
    cases h

/-- forks a normalizing round asks for never exceed the room that is left. -/
theorem round_within (c : Cfg) (tracked : Nat) (h : tracked ≤ c.max) :
    tracked + forksWanted c tracked ≤ c.max := by
  unfold forksWanted
  have : Nat.min (c.minEff + c.warm) c.max ≤ c.max := Nat.min_le_right _ _
  omega

/-- **the pinned gates did not have the property** (before fix 06f8e10): they
    counted the map only and a fork entered the map with SetWorker, so a second
    round of forks that passed the gate before the first round had registered made
    the supervisor track more than Max (Min = Max = 2: four forks pass with an empty
    map, four registrations follow). -/
theorem C15_tracked_le_max_pinned_false :
    ∃ (c : Cfg) (evs : List Ev), (runPinned c {} evs).tracked.length > c.max ∧
      (run c {} evs).tracked.length ≤ c.max := by
  refine ⟨⟨2, 2, 0, 3⟩, [.forkGate 1, .forkGate 2, .forkGate 3, .forkGate 4, .setWorker 1, .setWorker 2,
    .setWorker 3, .setWorker 4], by decide, by decide⟩

/-- non-vacuity: a round on a pool 2/3/1, a fourth request refused, a late registration for an
    address that was killed meanwhile refused at Max. -/
example : (run ⟨2, 3, 1, 3⟩ {} [.forkGate 1, .forkGate 2, .forkGate 3, .forkGate 4, .setWorker 1, .setWorker 2,
    .setWorker 3, .workerForked 1 11, .addPoolReady 2]).tracked.length = 3 ∧
    (run ⟨2, 3, 1, 3⟩ {} [.forkGate 1, .forkGate 2, .forkGate 3, .setWorker 1, .setWorker 2, .setWorker 3,
    .workerForked 1 11, .addPoolReady 2]).poolReady = true ∧
    (step ⟨2, 3, 1, 3⟩ (run ⟨2, 3, 1, 3⟩ {} [.forkGate 1, .forkGate 2, .forkGate 3]) (.forkGate 4)).2 = .vetoed ∧
    (step ⟨2, 3, 1, 3⟩ (run ⟨2, 3, 1, 3⟩ {} [.forkGate 1, .forkGate 2, .delWorker 1, .forkGate 3, .forkGate 4])
      (.setWorker 1)).2 = .vetoed := by decide

end Am.Super
