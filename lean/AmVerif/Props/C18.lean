/-
  C18 — pipes make the target follow the source. A queue settles to its newest
  entry (`applyQueue_append`), so every delivery leaves the target settling to the
  delivered value — executed at once, queued, or dropped by a duplicate rule that
  drops only what the queue settles to anyway (`dupNew_sound`) — and the target
  turning busy or idle does not move it.
-/
import AmVerif.Model.Pipes
namespace Am.Pipes

theorem applyQueue_split (a : Bool) (q1 q2 : List Ev) :
    applyQueue a (q1 ++ q2) = applyQueue (applyQueue a q1) q2 :=
  List.foldl_append

theorem applyQueue_append (a : Bool) (q : List Ev) (e : Ev) :
    applyQueue a (q ++ [e]) = e.add :=
  applyQueue_split a q [e]

theorem applyQueue_all (a b : Bool) (q : List Ev) (h : ∀ x ∈ q, x.add = b) (hne : q ≠ []) :
    applyQueue a q = b := by
  obtain ⟨xs, x, rfl⟩ := (List.eq_nil_or_concat q).resolve_left hne
  rw [List.concat_eq_append] at h ⊢
  exact (applyQueue_append a xs x).trans (h x (by simp))

/-- a mutation the counter-checking rule calls a duplicate would not change what
    the queue settles to. -/
theorem dupNew_sound (a : Bool) (q : List Ev) (e : Ev) (h : dupNew q e = true) :
    applyQueue a q = e.add := by
  simp only [dupNew, Bool.and_eq_true] at h
  generalize hr : q.reverse = r at h
  obtain rfl := List.reverse_eq_iff.1 hr
  cases r with
  | nil => exact nomatch h.2
  | cons x r =>
    rw [List.reverse_cons, applyQueue_append]
    -- the scan accepts only when the newest queued mutation is an equal one
    simp only [dupScan] at h
    split at h
    · simpa using ‹(x.add == e.add) = true›
    · exact nomatch h.2

/-- invariant: an idle target has nothing pending. -/
def Idle (t : Target) : Prop := t.busy = false → t.queue = []

theorem step_inv (dup : List Ev → Ev → Bool) (t : Target) (st : Step) (h : Idle t) :
    Idle (step dup t st) := by
  cases st with
  | deliver e =>
    -- a delivery leaves `busy` alone, and the queue of an idle target too
    cases hb : t.busy with
    | false => simpa [step, hb, Idle] using h hb
    | true => simp [step, hb, Idle, apply_ite Target.busy]
  | beginBusy => exact fun hb => nomatch hb
  | endBusy =>
    simp only [step]; split
    · exact fun _ => rfl
    · exact h

theorem step_settled_deliver {dup : List Ev → Ev → Bool}
    (hd : ∀ a q e, dup q e = true → applyQueue a q = e.add) (t : Target) (e : Ev) (h : Idle t) :
    settled (step dup t (.deliver e)) = e.add := by
  cases hb : t.busy with
  | false => simp only [step, settled, hb, Bool.false_eq_true, if_false, h hb]; rfl
  | true =>
    simp only [step, settled, hb, if_true]
    split
    · -- a `Remove` that finds nothing to do: inactive, nothing queued
      rename_i hn
      simp only [Bool.and_eq_true, Bool.not_eq_true', List.isEmpty_iff] at hn
      rw [hn.1.2, hn.2, hn.1.1]; rfl
    · split
      · rename_i hdup
        exact hd _ _ _ (Bool.and_eq_true _ _ ▸ hdup).2
      · exact applyQueue_append _ _ _

theorem step_settled_endBusy (dup : List Ev → Ev → Bool) (t : Target) :
    settled (step dup t .endBusy) = settled t := by
  simp only [step]; split <;> rfl

theorem run_inv (dup : List Ev → Ev → Bool) (t : Target) (s : List Step) (h : Idle t) :
    Idle (run dup t s) :=
  List.foldlRecOn s _ h fun t ht st _ => step_inv dup t st ht

/-- in-order delivery under any duplicate rule that drops a mutation only when the
    queue already settles to it. -/
theorem target_follows {dup : List Ev → Ev → Bool}
    (hd : ∀ a q e, dup q e = true → applyQueue a q = e.add) (t : Target) (s : List Step)
    (h : Idle t) : settled (run dup t s) = sourceFinal (settled t) (deliveries s) := by
  induction s generalizing t with
  | nil => rfl
  | cons st r ih =>
    refine (ih _ (step_inv dup t st h)).trans ?_
    cases st with
    | deliver e => rw [step_settled_deliver hd t e h]; rfl
    | beginBusy => rfl
    | endBusy => rw [step_settled_endBusy]; rfl

/-- **C18 (in-order delivery)**: when the pipe's calls reach the target in the
    order of the source's transitions (the synchronous local pipe), then for every
    toggle history, every rhythm of the target being busy or idle, with or without
    args, what the target settles to is the source's final activity — no matter how
    quickly the source toggled. -/
theorem C18_target_follows_inorder (t : Target) (s : List Step) (h : Idle t) :
    settled (run dupNew t s) = sourceFinal (settled t) (deliveries s) :=
  target_follows dupNew_sound t s h

/-- corollary in the property's words: once the source has stopped and the target
    is idle again, the piped state is active exactly when the source state is. -/
theorem C18_quiescent_equal (s : List Step) (src0 : Bool)
    (hidle : (run dupNew { act := src0 } s).busy = false) :
    (run dupNew { act := src0 } s).act = sourceFinal src0 (deliveries s) := by
  have h0 : Idle ({ act := src0 } : Target) := fun _ => rfl
  have := C18_target_follows_inorder _ s h0
  rwa [settled, run_inv _ _ s h0 hidle] at this

/-- **forked delivery does not have the property**: each event forwarded in its
    own goroutine may reach the target in any order; an Add overtaken by the later
    Remove leaves the target active while the source is not. -/
theorem C18_forked_delivery_false :
    ∃ (evs perm : List Ev), perm.Perm evs ∧
      (run dupNew {} (perm.map Step.deliver)).act ≠ sourceFinal false evs :=
  ⟨[⟨true, false⟩, ⟨false, false⟩], [⟨false, false⟩, ⟨true, false⟩], by decide, by decide⟩

/-- **the pinned duplicate rule does not have the property** even in order: Add,
    Remove, Add arriving while the target is busy — the second Add is dropped as a
    duplicate of the first although a Remove sits between them. -/
theorem C18_old_duplicate_rule_false :
    ∃ s : List Step, (run dupOld {} s).busy = false ∧
      (run dupOld {} s).act ≠ sourceFinal false (deliveries s) :=
  ⟨[.beginBusy, .deliver ⟨true, false⟩, .deliver ⟨false, false⟩, .deliver ⟨true, false⟩, .endBusy],
   by decide, by decide⟩

/-- **the flat variants do not have the property** on a busy target: the Remove is
    queued, the following Add is skipped because the target still shows the state
    active, and the drain then removes it. -/
theorem C18_flat_variant_false :
    ∃ s : List Step, (runFlat dupNew { act := true } s).busy = false ∧
      (runFlat dupNew { act := true } s).act ≠ sourceFinal true (deliveries s) :=
  ⟨[.beginBusy, .deliver ⟨false, false⟩, .deliver ⟨true, false⟩, .endBusy], by decide, by decide⟩

/-- non-vacuity: a busy target, a burst, a suppressed duplicate. -/
example : (run dupNew {} [.beginBusy, .deliver ⟨true, false⟩, .deliver ⟨true, false⟩,
    .deliver ⟨false, false⟩, .deliver ⟨true, false⟩, .endBusy]).act = true ∧
    (run dupNew {} [.beginBusy, .deliver ⟨true, false⟩, .deliver ⟨true, false⟩]).queue.length = 1 := by
  decide


/-- **C18 (BindAny: the target's active set equals the source's)**: after the
    handler has run for a source transition with target states `states`, a state
    of the source is active on the target iff it is among `states` — whatever the
    target held before (fix 8d7ab55). -/
theorem C18_bindany_equal (names tgt states : List Nat) (hs : ∀ x ∈ states, x ∈ names) :
    ∀ n ∈ names, (n ∈ bindAnyStep true names tgt states ↔ n ∈ states) := by
  intro n hn
  simp only [bindAnyStep]
  split
  · rename_i h
    simp only [Bool.not_true, Bool.false_or, Bool.and_eq_true, List.all_eq_true,
      List.contains_iff_mem, List.mem_filter, Bool.not_eq_true', ← Bool.not_eq_true, and_imp] at h
    exact ⟨fun hm => Decidable.not_not.1 fun hns => h.2 n hn hns hm, h.1 n⟩
  · exact Iff.rfl

/-- **the pinned subset test did not have the property**: a source that shrinks
    its active set from (0 1) to (0) leaves the target at (0 1). -/
theorem C18_bindany_pinned_false :
    ∃ names tgt states, (∀ x ∈ states, x ∈ names) ∧
      ¬ (∀ n ∈ names, (n ∈ bindAnyStep false names tgt states ↔ n ∈ states)) := by
  refine ⟨[0, 1], [0, 1], [0], by decide, ?_⟩
  intro h
  have := (h 1 (by decide)).1 (by decide)
  simp at this

end Am.Pipes
