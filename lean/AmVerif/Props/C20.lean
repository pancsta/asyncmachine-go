/- C20 — public helpers obey their algebra. Property theorems only. -/
import AmVerif.Model.Time
import AmVerif.Lemmas.ListSet
namespace Am

/-- C20 (`S.Add` / `SAdd` union without duplicates). -/
theorem C20_sAdd (ls : List S) :
    (sAdd ls).Nodup ∧ ∀ x, x ∈ sAdd ls ↔ ∃ l ∈ ls, x ∈ l := by
  refine ⟨nodup_uniq _, fun x => ?_⟩
  simp [sAdd, List.mem_flatten]

/-- C20 (`S.Add1`). -/
theorem C20_sAdd1 (s names : S) :
    (sMethodAdd1 s names).Nodup ∧ ∀ x, x ∈ sMethodAdd1 s names ↔ x ∈ s ∨ x ∈ names := by
  refine ⟨nodup_uniq _, fun x => ?_⟩
  simp [sMethodAdd1]

/-- C20 (`S.Delete` removes) at full strength. -/
def C20_delete_full : Prop :=
  ∀ (src : S) (ls : List S) (x : Nat), x ∈ sRem src ls ↔ x ∈ src ∧ ∀ l ∈ ls, x ∉ l

/-- … false of the code for a source list with duplicates: `slicesWithout`
    drops one occurrence per listed name. -/
theorem C20_delete_full_false : ¬ C20_delete_full := by
  intro h
  have := (h [1, 1] [[1]] 1).1 (by decide)
  exact this.2 [1] (by simp) (by simp)

/-- C20 (`S.Delete`, partial): on a duplicate-free receiver it is set
    difference (signature of the recorded finding: the receiver has a
    duplicate). -/
theorem C20_delete_partial (src : S) (ls : List S) (h : src.Nodup) (x : Nat) :
    x ∈ sRem src ls ↔ x ∈ src ∧ ∀ l ∈ ls, x ∉ l := by
  unfold sRem
  rw [mem_foldl_without_nodup _ _ h]
  simp [List.mem_flatten]

/-- C20: the pinned `SRem` skipped its first list (so `S.Delete(l)` removed
    nothing) — kept as the witness of the fixed finding. -/
example : sRemPinned [1, 2] [[1]] = [1, 2] ∧ sRem [1, 2] [[1]] = [2] := by decide

/-- C20 (`Sub` / `Shared` / `Equal`). -/
theorem C20_sub_shared_equal (a b : S) :
    (∀ x, x ∈ diff a b ↔ x ∈ a ∧ x ∉ b) ∧ (∀ x, x ∈ shared a b ↔ x ∈ a ∧ x ∈ b) ∧
    (equal a b = true ↔ ∀ x, x ∈ a ↔ x ∈ b) :=
  ⟨fun _ => mem_diff, fun _ => mem_shared, equal_iff⟩

/-- C20 (`Unique`). -/
theorem C20_unique (l : S) : (uniq l).Nodup ∧ (∀ x, x ∈ uniq l ↔ x ∈ l) ∧ (l.Nodup → uniq l = l) :=
  ⟨nodup_uniq l, fun _ => mem_uniq, uniq_of_nodup⟩

/-- C20 (`ParseStates` drops unknown names and duplicates, keeps the order). -/
theorem C20_parseStates (n : Nat) (states : S) :
    (parseStates n states).Nodup ∧
    (∀ x, x ∈ parseStates n states ↔ x ∈ states ∧ x < n) ∧
    (parseStates n states).Sublist states :=
  ⟨nodup_uniq _, fun x => by simp [parseStates], (uniq_sublist _).trans List.filter_sublist⟩

/-- the pinned `ParseStates` kept unknown names when the input had a duplicate. -/
example : parseStatesPinnedDup [0, 7, 0] = [0, 7] ∧ parseStates 3 [0, 7, 0] = [0] := by decide

/-- C20 (`Time` views): `Is1` is "in range and odd", `Not1` its in-range
    complement, `ActiveStates(nil)` lists exactly the `Is1` indexes. -/
theorem C20_time_views (t : TimeV) (i : Nat) :
    (tIs1 t (some i) = true ↔ i < t.length ∧ tTick t i % 2 = 1) ∧
    (tNot1 t (some i) = true ↔ i < t.length ∧ tTick t i % 2 ≠ 1) ∧
    (i ∈ tActive t none ↔ tIs1 t (some i) = true) := by
  simp [tIs1, tNot1, tActive, tTick, isActiveTick]

/-- C20 (`Time.ActiveStates(idxs)` honours its filter — after the `fix:`). -/
theorem C20_time_active_filter (t : TimeV) (l : List Nat) (i : Nat) :
    i ∈ tActive t (some l) ↔ i ∈ tActive t none ∧ i ∈ l := by
  simp [tActive, and_assoc]

/-- C20 (`Time.Is` / `Not` / `Any1` in terms of `Is1`). -/
theorem C20_time_is_not (t : TimeV) (idxs : List (Option Nat)) :
    (tIs t idxs = true ↔ idxs ≠ [] ∧ ∀ i ∈ idxs, tIs1 t i = true) ∧
    (tNot t idxs = true ↔ ∀ i ∈ idxs, tIs1 t i = false) ∧
    (tAny1 t idxs = true ↔ ∃ i ∈ idxs, tIs1 t i = true) := by
  refine ⟨?_, ?_, ?_⟩
  · cases idxs <;> simp [tIs]
  · simp [tNot]
  · simp [tAny1]

end Am
