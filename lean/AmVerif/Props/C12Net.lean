/-
  C12 — "the same holds for a network machine that is receiving clock updates while being
  read": obligations over the access table of pkg/rpc's NetworkMachine, regenerated from /repo
  on every run (Generated/LocksNet.lean). The mirror's clock lives in four fields guarded by
  `clockMx`; an update arrives through `NetMachInternal.UpdateClock`, whose contract is "the
  caller holds `clockMx` in write mode" (it releases it itself before calling tracers). With
  `Lockset.C12_writer_excludes_all` the four obligations give: no access to a clock field is
  concurrent with a write to it.
-/
import AmVerif.Generated.LocksNet
namespace Am.C12N
open Am.Lockset

def clockFields : List String :=
  ["NetworkMachine.machTime", "NetworkMachine.machClock", "NetworkMachine.queueTick",
   "NetworkMachine.machTick"]

def clockLock : String := "NetworkMachine.clockMx"

def isClockField (f : String) : Bool := clockFields.contains f

/-- the row's access holds `clockMx` (in write mode for a write). -/
def holds (r : Row) : Bool := r.locks.any (fun l => l.1 == clockLock && (l.2 || !r.write))

/-- the access comes after the function has released its caller's `clockMx`. -/
def afterRelease (r : Row) : Bool := r.locks.any (fun l => l.1 == "released " ++ clockLock)

/-- the three obligations on a row of the table (spelt out one by one below). -/
def clockRowOK (r : Row) : Bool :=
  (!(isClockField r.field && r.write) ||
    r.func == "NetworkMachine.updateClock" || r.func == "Client.updateStatesSchema" ||
    r.func == "NewNetworkMachine") &&
  (!(isClockField r.field) ||
    r.func == "NetworkMachine.updateClock" || r.func == "NewNetworkMachine" ||
    (!r.async && holds r)) &&
  (!(isClockField r.field && r.func == "NetworkMachine.updateClock") || !afterRelease r)

/-- the table is read once: inside one declaration the kernel decodes each string literal once,
    and that is most of what an evaluation of this table costs. -/
theorem table_ok (r : Row) (hr : r ∈ Gen.netLockRows) : clockRowOK r = true :=
  List.all_eq_true.1 (by decide +kernel : Gen.netLockRows.all clockRowOK = true) r hr

/-- **writers are confined**: the clock fields are written by the update path, by the schema
    update of the handshake and by the constructor only. -/
theorem C12_net_writers_confined :
    Gen.netLockRows.all (fun r => !(isClockField r.field && r.write) ||
      r.func == "NetworkMachine.updateClock" || r.func == "Client.updateStatesSchema" ||
      r.func == "NewNetworkMachine") = true :=
  List.all_eq_true.2 fun r hr => by
    have h := table_ok r hr
    simp only [clockRowOK, Bool.and_eq_true] at h
    exact h.1.1

/-- **every other access is guarded**: outside `updateClock` (covered by its contract) and the
    constructor, every access to a clock field holds `clockMx`, writes in write mode. -/
theorem C12_net_clock_guarded :
    Gen.netLockRows.all (fun r => !(isClockField r.field) ||
      r.func == "NetworkMachine.updateClock" || r.func == "NewNetworkMachine" ||
      (!r.async && holds r)) = true :=
  List.all_eq_true.2 fun r hr => by
    have h := table_ok r hr
    simp only [clockRowOK, Bool.and_eq_true] at h
    exact h.1.2

/-- **the update touches the clock only while it still holds its caller's lock**. -/
theorem C12_net_update_before_release :
    Gen.netLockRows.all (fun r => !(isClockField r.field && r.func == "NetworkMachine.updateClock") ||
      !afterRelease r) = true :=
  List.all_eq_true.2 fun r hr => by
    have h := table_ok r hr
    simp only [clockRowOK, Bool.and_eq_true] at h
    exact h.2

/-- **the contract is honoured**: every caller of `UpdateClock` holds `clockMx` in write mode,
    and `updateClock` is reached through `UpdateClock` only. -/
theorem C12_net_update_contract :
    Gen.netContractCalls.all (fun c =>
      if c.2.1 == "NetMachInternal.UpdateClock" then c.2.2.any (fun l => l.1 == clockLock && l.2)
      else c.1 == "NetMachInternal.UpdateClock") = true := by decide +kernel

/-- non-vacuity: the table has the update path and guarded readers in it. -/
example : Gen.netLockRows.any (fun r => r.func == "NetworkMachine.updateClock" && r.write && isClockField r.field) = true ∧
    Gen.netLockRows.any (fun r => r.func == "NetworkMachine.Clock" && holds r) = true ∧
    Gen.netContractCalls.length ≥ 2 := by decide +kernel

end Am.C12N
