/-
  C13 — Dispose is safe from anywhere: the disposal protocol against the queue
  loop, for every number of mutating and disposing goroutines and every
  interleaving. The step analysis rests on two frame lemmas (`Inv.caller`, `Inv.disp`) and their
  special cases for moves that change no count (`Inv.caller_quiet`, `Inv.disp_same`); the counting
  lemma over `List.set` is in Lemmas/Sched. The frame lemmas name a count after the move by the
  equation that defines it (`r + … = cnt … s + …`), so that no subtraction on `Nat` appears.
-/
import AmVerif.Model.DisposeProto
import AmVerif.Lemmas.Sched
namespace Am.DP

def cnt (f : Th → Bool) (s : St) : Nat := (s.ths.filter f).length

theorem cnt_setTh (s : St) (i : Nat) (p q : Th) (f : Th → Bool) (h : s.ths[i]? = some q) :
    cnt f (setTh s i p) + (if f q then 1 else 0) = cnt f s + (if f p then 1 else 0) :=
  length_filter_set f h p

theorem cnt_pos {f : Th → Bool} {s : St} {t : Th} (ht : t ∈ s.ths) (hf : f t = true) : 0 < cnt f s :=
  List.length_pos_of_mem (List.mem_filter.mpr ⟨ht, hf⟩)

/-- a caller at `loop` or `release`: between its CAS and its release, outside a transition. -/
def isLR : Th → Bool
  | .caller .loop => true
  | .caller .release => true
  | _ => false

theorem running_eq (s : St) : running s = cnt isRunning s := rfl
theorem bodies_eq (s : St) : bodies s = cnt inBody s := rfl

def b2n (b : Bool) : Nat := if b then 1 else 0
@[simp] theorem b2n_true : b2n true = 1 := rfl
@[simp] theorem b2n_false : b2n false = 0 := rfl

theorem openAfter_append (l : List Bool) (b : Bool) : openAfter (l ++ [b]) = trStep (openAfter l) b :=
  List.foldl_append

theorem foldl_trStep_none (l : List Bool) : l.foldl trStep none = none := by
  induction l with
  | nil => rfl
  | cons b l ih => simpa [trStep] using ih

theorem openAfter_prefix (l₁ l₂ : List Bool) (h : (openAfter (l₁ ++ l₂)).isSome) : (openAfter l₁).isSome := by
  unfold openAfter at *
  rw [List.foldl_append] at h
  cases hx : l₁.foldl trStep (some 0) with
  | none => rw [hx, foldl_trStep_none] at h; cases h
  | some v => rfl

structure Inv (s : St) : Prop where
  /-- while disposal has not been flagged the lock tells exactly whether one
      goroutine is between its CAS and its release -/
  mutex : s.disposing = false → cnt isRunning s + cnt isLR s = b2n s.lock
  /-- at most one goroutine is inside a transition -/
  one : cnt isRunning s ≤ 1
  /-- a disposer past the first CAS has flagged the disposal -/
  past : ∀ t ∈ s.ths, pastEnter t = true → s.disposing = true
  /-- the body of doDispose: never entered before `disposed` is set, at most once -/
  body0 : s.disposed = false → cnt inBody s + s.bodyRuns = 0
  body1 : cnt inBody s + s.bodyRuns ≤ 1
  /-- the tracer callbacks so far are well bracketed, and a transition is open exactly when a
      goroutine is inside one -/
  tr : openAfter s.trace = some (cnt isRunning s)

theorem forall_mem_init {P : Th → Prop} {n g f : Nat} (h1 : P (.caller .idle)) (h2 : P (.disp false .start))
    (h3 : P (.disp true .enter)) : ∀ t ∈ (init n g f).ths, P t := by
  intro t ht
  simp only [init, List.mem_append, List.mem_replicate] at ht
  rcases ht with (⟨_, rfl⟩ | ⟨_, rfl⟩) | ⟨_, rfl⟩ <;> assumption

theorem inv_init (n g f : Nat) : Inv (init n g f) := by
  have hr : cnt isRunning (init n g f) = 0 := length_filter_eq_zero (forall_mem_init rfl rfl rfl)
  have hl : cnt isLR (init n g f) = 0 := length_filter_eq_zero (forall_mem_init rfl rfl rfl)
  have hb : cnt inBody (init n g f) = 0 := length_filter_eq_zero (forall_mem_init rfl rfl rfl)
  exact ⟨fun _ => by rw [hr, hl]; rfl, by omega, forall_mem_init nofun nofun nofun, fun _ => by rw [hb]; rfl,
    by rw [hb]; exact Nat.zero_le 1, by rw [hr]; rfl⟩

theorem trStep_le_one {o : Option Nat} {b : Bool} {n : Nat} (h : trStep o b = some n) : n ≤ 1 := by
  cases o with
  | none => cases h
  | some m =>
    simp only [trStep, Option.bind_some] at h
    -- each of the four branches returns `some 1`, `some 0` or `none`
    repeat' split at h
    all_goals cases h
    all_goals omega

/-- whatever came before, the last callback leaves 0 or 1 transitions open. -/
theorem openAfter_le_one {l : List Bool} {n : Nat} (h : openAfter l = some n) : n ≤ 1 := by
  rcases l.eq_nil_or_concat with rfl | ⟨l, b, rfl⟩
  · cases h; exact Nat.zero_le 1
  · rw [List.concat_eq_append, openAfter_append] at h
    exact trStep_le_one h

/-- before the disposal is flagged a goroutine at `loop` or `release` is the one that holds the lock. -/
theorem Inv.locked {s : St} (h : Inv s) (hd : s.disposing = false) {t : Th} (ht : t ∈ s.ths)
    (hl : isLR t = true) : s.lock = true ∧ cnt isRunning s = 0 := by
  have hm := h.mutex hd
  have := cnt_pos ht hl
  cases hk : s.lock <;> rw [hk] at hm
  · rw [b2n_false] at hm; omega
  · rw [b2n_true] at hm; exact ⟨rfl, by omega⟩

/-- A caller moves from `q` to `p`. It writes the lock, the queue and the trace and nothing the
    disposal reads, and it alone changes the counts: what is left to show is that the lock follows the
    caller's own move, and that the trace fits the new number of running goroutines. -/
theorem Inv.caller {s : St} {i : Nat} {q : MPc} (h : Inv s) (hq : s.ths[i]? = some (.caller q)) (p : MPc)
    (lk : Bool) (qu st : Nat) (tr : List Bool)
    (hm : s.disposing = false → b2n lk + b2n (isLR (.caller q)) + b2n (isRunning (.caller q))
      = b2n s.lock + b2n (isLR (.caller p)) + b2n (isRunning (.caller p)))
    (ht : ∀ r, r + b2n (isRunning (.caller q)) = cnt isRunning s + b2n (isRunning (.caller p)) →
      openAfter tr = some r) :
    Inv (setTh { s with lock := lk, queue := qu, started := st, trace := tr } i (.caller p)) := by
  have key := fun c => cnt_setTh { s with lock := lk, queue := qu, started := st, trace := tr } i (.caller p) _ c hq
  have hr : _ + b2n (isRunning (.caller q)) = cnt isRunning s + b2n (isRunning (.caller p)) := key isRunning
  have hl : _ + b2n (isLR (.caller q)) = cnt isLR s + b2n (isLR (.caller p)) := key isLR
  have b : _ = cnt inBody s := Nat.add_right_cancel (key inBody)
  refine ⟨fun hd => ?_, openAfter_le_one (ht _ hr), fun t ht hpt => ?_, fun hd => b ▸ h.body0 hd, b ▸ h.body1,
    ht _ hr⟩
  · have := hm hd; have := h.mutex hd; show _ + _ = b2n lk; omega
  · rcases List.mem_or_eq_of_mem_set ht with ht | rfl
    · exact h.past t ht hpt
    · cases hpt

/-- A caller's move that neither starts nor ends a transition: only the lock is left to account for. -/
theorem Inv.caller_quiet {s : St} {i : Nat} {q : MPc} (h : Inv s) (hq : s.ths[i]? = some (.caller q))
    (p : MPc) (lk : Bool) (qu : Nat) (eR : isRunning (.caller p) = isRunning (.caller q))
    (hm : s.disposing = false → b2n lk + b2n (isLR (.caller q)) = b2n s.lock + b2n (isLR (.caller p))) :
    Inv (setTh { s with lock := lk, queue := qu } i (.caller p)) :=
  h.caller hq p _ _ _ _ (fun hd => by rw [eR, hm hd])
    fun r hr => Nat.add_right_cancel (eR ▸ hr) ▸ h.tr

/-- A disposer moves from `q` to `p`. It is never counted among the holders of the lock and does not
    write the trace; it may write the lock, but only once the disposal is flagged, when the lock no
    longer says anything. What is left to show is the part about the body of doDispose. -/
theorem Inv.disp {s : St} {i : Nat} {f : Bool} {q : DPc} (h : Inv s) (hq : s.ths[i]? = some (.disp f q))
    (p : DPc) (lk dg dd ud : Bool) (br : Nat)
    (hdg : s.disposing = true → dg = true) (hlk : dg = false → lk = s.lock)
    (hpp : pastEnter (.disp f p) = true → dg = true)
    (hb : ∀ b, b + b2n (inBody (.disp f q)) = cnt inBody s + b2n (inBody (.disp f p)) →
      (dd = false → b + br = 0) ∧ b + br ≤ 1) :
    Inv (setTh { s with lock := lk, disposing := dg, disposed := dd, unlockD := ud, bodyRuns := br } i
      (.disp f p)) := by
  have key := fun c => cnt_setTh
    { s with lock := lk, disposing := dg, disposed := dd, unlockD := ud, bodyRuns := br } i (.disp f p) _ c hq
  have r : _ = cnt isRunning s := Nat.add_right_cancel (key isRunning)
  have l : _ = cnt isLR s := Nat.add_right_cancel (key isLR)
  obtain ⟨hb0, hb1⟩ := hb _ (key inBody)
  refine ⟨fun hd => ?_, r ▸ h.one, fun t ht hpt => ?_, hb0, hb1, r ▸ h.tr⟩
  · have hd' : s.disposing = false := by
      cases e : s.disposing
      · rfl
      · exact (hdg e).symm.trans hd
    rw [r, l, hlk hd]
    exact h.mutex hd'
  · rcases List.mem_or_eq_of_mem_set ht with ht | rfl
    · exact hdg (h.past t ht hpt)
    · exact hpp hpt

/-- A disposer's move that neither enters nor leaves the body and writes `unlockD` at most. -/
theorem Inv.disp_same {s : St} {i : Nat} {f : Bool} {q : DPc} (h : Inv s) (hq : s.ths[i]? = some (.disp f q))
    (p : DPc) (ud : Bool) (eB : inBody (.disp f p) = inBody (.disp f q))
    (eP : pastEnter (.disp f p) = true → s.disposing = true) :
    Inv (setTh { s with unlockD := ud } i (.disp f p)) :=
  h.disp hq p _ _ _ _ _ id (fun _ => rfl) eP fun _ hb => Nat.add_right_cancel (eB ▸ hb) ▸ ⟨h.body0, h.body1⟩

/-- every step of every goroutine keeps the invariant (fixed order). -/
theorem inv_step (s s' : St) (i : Nat) (h : Inv s) (hs : step true s i = some s') : Inv s' := by
  unfold step at hs
  split at hs
  · cases hs
  · rename_i pc hp
    have hmem := List.mem_of_getElem? hp
    cases pc <;> simp only [stepMut] at hs
    case idle | pre | recheck => split at hs <;> cases hs <;> exact h.caller_quiet hp _ _ _ rfl fun _ => rfl
    case done => cases hs
    case cas =>
      split at hs <;> cases hs
      · exact h.caller_quiet hp _ _ _ rfl fun _ => rfl
      · rename_i hf
        exact h.caller_quiet hp _ _ _ rfl fun _ => by rw [Bool.not_eq_true _ |>.mp hf]; rfl
    case loop =>
      split at hs
      · split at hs <;> cases hs
        · -- a holder leaves without releasing: only once disposal is flagged
          rename_i hd
          exact h.caller_quiet hp _ _ _ rfl fun hd' => absurd hd (ne_true_of_eq_false hd')
        · rename_i hd
          have hr0 := (h.locked (Bool.not_eq_true _ |>.mp hd) hmem rfl).2
          refine h.caller hp _ _ _ _ _ (fun _ => rfl) fun r (hr : r = _ + 1) => ?_
          rw [openAfter_append, h.tr, hr, hr0]; rfl
      · cases hs; exact h.caller_quiet hp _ _ _ rfl fun _ => rfl
    case running =>
      cases hs
      have h1 : cnt isRunning s = 1 := Nat.le_antisymm h.one (cnt_pos hmem rfl)
      refine h.caller hp _ _ _ _ _ (fun _ => rfl) fun r (hr : r + 1 = cnt isRunning s) => ?_
      rw [h1] at hr
      rw [openAfter_append, h.tr, h1, Nat.succ.inj hr]; rfl
    case release =>
      cases hs
      exact h.caller_quiet hp _ _ _ rfl fun hd => by rw [(h.locked hd hmem rfl).1]; rfl
  · rename_i force pc hp
    have hmem := List.mem_of_getElem? hp
    cases pc <;> simp only [stepDisp] at hs
    case start => split at hs <;> cases hs <;> exact h.disp_same hp _ _ rfl nofun
    case wait => cases hs; exact h.disp_same hp _ _ rfl fun _ => h.past _ hmem rfl
    case done => cases hs
    case enter =>
      split at hs <;> cases hs
      · exact h.disp_same hp _ _ rfl nofun
      · cases force <;> exact h.disp hp _ _ _ _ _ _ (fun _ => rfl) nofun (fun _ => rfl)
          fun b (e : b = _) => e ▸ ⟨h.body0, h.body1⟩
    case gate =>
      split at hs <;> cases hs
      · exact h.disp_same hp _ _ rfl nofun
      · rename_i hdd
        have := h.body0 (Bool.not_eq_true _ |>.mp hdd)
        exact h.disp hp _ _ _ _ _ _ id (fun _ => rfl) (fun _ => h.past _ hmem rfl)
          fun b (hb : b + 0 = _ + 1) => ⟨nofun, by omega⟩
    case body =>
      cases hs
      -- a goroutine is in the body, so `disposed` is set (`body0`) and the body has not run yet (`body1`)
      have := cnt_pos hmem (f := inBody) rfl
      exact h.disp hp _ _ _ _ _ _ id (fun _ => rfl) (fun _ => h.past _ hmem rfl)
        fun b (hb : b + 1 = _ + 0) => ⟨fun e => by have := h.body0 e; omega, by have := h.body1; omega⟩
    case tail =>
      have hd : s.disposing = true := h.past _ hmem rfl
      split at hs <;> cases hs
      · exact h.disp hp _ _ _ _ _ _ id (fun e => absurd hd (ne_true_of_eq_false e)) nofun
          fun b (e : b = _) => e ▸ ⟨h.body0, h.body1⟩
      · exact h.disp_same hp _ _ rfl nofun

theorem inv_run (s : St) (sched : List Nat) (h : Inv s) : Inv (run true s sched) :=
  foldl_getD_inv (fun s i s' h => inv_step s s' i h) sched h

theorem inv_reachable (n g f : Nat) (sched : List Nat) : Inv (run true (init n g f) sched) :=
  inv_run _ sched (inv_init n g f)

/-- **C13 (Dispose concurrently with mutations: never two transitions at once)**:
    for every number of mutating callers, graceful and forced disposers and every
    interleaving of their steps, at most one goroutine is inside a transition —
    the mutual exclusion of the queue loop survives a disposal that lands while a
    transition is running (order of fix dbdc9be). -/
theorem C13_no_overlap_during_dispose (n g f : Nat) (sched : List Nat) :
    running (run true (init n g f) sched) ≤ 1 :=
  (inv_reachable n g f sched).one

/-- **C13 (dispose handlers at most once)**: whatever the number of
    concurrent Dispose / DisposeForce calls and their interleaving, the body of
    doDispose (closing errInternal, releasing the subscriptions, the registered
    dispose handlers, closing WhenDisposed) runs at most once, and not before
    `disposed` is set. -/
theorem C13_body_at_most_once (n g f : Nat) (sched : List Nat) :
    (run true (init n g f) sched).bodyRuns ≤ 1 ∧
    ((run true (init n g f) sched).disposed = false → (run true (init n g f) sched).bodyRuns = 0) := by
  have h := inv_reachable n g f sched
  exact ⟨by have := h.body1; omega, fun hd => by have := h.body0 hd; omega⟩

/-- **C14 (callbacks never interleave, any number of goroutines)**: the
    TransitionInit / TransitionEnd callbacks, made by whichever goroutine happens to
    run a transition, form a well-bracketed sequence for every number of callers
    and disposers and every interleaving of their steps — an Init never comes while
    a transition is open, an End never while none is — and a transition is open at
    the end of the trace exactly when a goroutine is inside one. (The sequential
    shape of the four callbacks within one transition is `C14_callbacks_well_formed`.) -/
theorem C14_callbacks_bracketed_all_interleavings (n g f : Nat) (sched : List Nat) :
    openAfter (run true (init n g f) sched).trace = some (running (run true (init n g f) sched)) ∧
    running (run true (init n g f) sched) ≤ 1 :=
  ⟨(inv_reachable n g f sched).tr, (inv_reachable n g f sched).one⟩

theorem step_disposing_mono (fx : Bool) (s s' : St) (i : Nat) (hs : step fx s i = some s')
    (hd : s.disposing = true) : s'.disposing = true ∧ s'.started = s.started := by
  -- with `disposing` set, the guards that read it are decided: no caller reaches the step that starts a
  -- transition, no disposer the one that writes the flag, and the steps that are left touch neither field
  obtain ⟨lk, dg, dd, ud, qu, st, br, tr, ths⟩ := s
  cases hd
  unfold step at hs
  split at hs
  · cases hs
  · rename_i pc _
    cases pc <;> simp only [stepMut, ↓reduceIte, or_true, not_true_eq_false, and_false] at hs <;>
      (try split at hs) <;> cases hs <;> exact ⟨rfl, rfl⟩
  · rename_i f pc _
    cases pc <;> simp only [stepDisp, ↓reduceIte, or_true] at hs <;>
      (try split at hs) <;> cases hs <;> exact ⟨rfl, rfl⟩

/-- **C13 (every later call is neutral)**: once the disposal is flagged no
    transition starts any more, whatever callers do and in whatever order —
    both orders of letting go of the lock. -/
theorem C13_nothing_starts_after_disposing (fx : Bool) (s : St) (sched : List Nat)
    (hd : s.disposing = true) :
    (run fx s sched).disposing = true ∧ (run fx s sched).started = s.started :=
  foldl_getD_inv (P := fun t => t.disposing = true ∧ t.started = s.started)
    (fun t i t' h ht => (step_disposing_mono fx t t' i ht h.1).imp_right (·.trans h.2)) sched ⟨hd, rfl⟩

/-- **the pinned order did not have the property** (before fix dbdc9be): `Dispose()`
    let go of the queue lock before `doDispose` had flagged the disposal; a
    mutation made in that window took the lock and started a transition next to
    the one still running. Callers 0 and 1 mutate, goroutine 2 is `Dispose()`. -/
theorem C13_overlap_pinned_false :
    ∃ sched, running (run false (init 2 1 0) sched) = 2 ∧ running (run true (init 2 1 0) sched) ≤ 1 := by
  refine ⟨[0, 0, 0, 0, 2, 1, 1, 1, 1], by decide, by decide⟩

/-- non-vacuity: a disposal that lands while a transition runs, a third caller in
    the window, everything running to the end: one body, two transitions never,
    the queued mutation never started. -/
example :
    let s := run true (init 2 1 1) [0, 0, 0, 0, 2, 1, 1, 1, 1, 3, 2, 2, 2, 0, 0, 2, 2, 2, 2, 3, 3]
    s.bodyRuns = 1 ∧ s.started = 1 ∧ s.disposed = true ∧ s.lock = false := by decide

end Am.DP
