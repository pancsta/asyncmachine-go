/-
  C05 — handler lifecycle.
  (The exact call sequence is tied to the code by the correspondence run, which
  compares every handler call with the snapshot it observed.)
-/
import AmVerif.Lemmas.Chain
namespace Am

/-- C05 (visibility, negotiation): through every stage of the negotiation phase
    — Exit, Enter, self, state-state handlers and the global AnyEnter, for any
    bindings and any handler behaviour — the machine a handler can observe
    (active states, clock) is exactly the machine from before the transition. -/
theorem C05_negotiation_state_frozen (orc : Oracle) (m : Mach) (t : Tx) :
    (∀ l, (emitExits orc l m t).1.active = m.active ∧ (emitExits orc l m t).1.clock = m.clock) ∧
    (∀ l, (emitEnters orc l m t).1.active = m.active ∧ (emitEnters orc l m t).1.clock = m.clock) ∧
    (∀ f i a, (emitSelfs orc f i a m t).1.active = m.active ∧ (emitSelfs orc f i a m t).1.clock = m.clock) ∧
    (∀ af l, (emitSS orc af l m t).1.active = m.active ∧ (emitSS orc af l m t).1.clock = m.clock) ∧
    ((stageAnyEnter orc m t).1.active = m.active ∧ (stageAnyEnter orc m t).1.clock = m.clock) :=
  have q : ∀ {E : Ev → Prop} {m' : Mach} {t' : Tx}, Path False E m t m' t' →
      m'.active = m.active ∧ m'.clock = m.clock := fun p => ⟨p.keeps.chg.active, p.keeps.chg.clock⟩
  ⟨fun l => q (emitExits_path orc l m t), fun l => q (emitEnters_path orc l m t),
   fun f i a => q (emitSelfs_path orc f i a m t), fun af l => q (emitSS_path orc af l m t),
   q (stageAnyEnter_path orc m t)⟩

/-- C05 (visibility, finals): the final handlers are started on a machine whose
    active states are exactly the transition's target. -/
theorem C05_finals_see_target (m : Mach) (called target : S) :
    (applyActive m called target).active = target := rfl

/-- C05 (veto): a `false` from any negotiation handler (non-Auto case) stops the
    stage at once: later states of the stage are not visited. Stated for Enter. -/
theorem C05_veto_stops_enter (orc : Oracle) (m : Mach) (t : Tx) (s : Nat) (rest : S)
    (hveto : (handle orc m t (.enter s) (.st s) false true).2.2 = false)
    (hna : t.mu.isAuto = false) :
    emitEnters orc (s :: rest) m t =
      ((handle orc m t (.enter s) (.st s) false true).1,
       (handle orc m t (.enter s) (.st s) false true).2.1, false) := by
  have hmu : (handle orc m t (.enter s) (.st s) false true).2.1.mu.isAuto = false := by
    rw [(handle_sameTx orc m t (.enter s) (.st s) false true).mu]; exact hna
  simp only [emitEnters, hveto, Bool.false_eq_true, if_false, hmu, Bool.false_and]

/-- C05 (handler lists): Exits is a permutation of the states being deactivated,
    Enters lists target states in target order. -/
theorem C05_exits_perm (m : Mach) (t : Tx) :
    (setupExitEnter m t).exits.Perm (diff m.active t.target) ∧
    (setupExitEnter m t).enters.Sublist t.target :=
  ⟨sortStates_perm _ _ _, List.filter_sublist⟩

/-- C05 order clause at full strength: in the resolved target a state comes after
    every state it lists in After. -/
def C05_after_order_full : Prop :=
  ∀ (c : RCtx) (toSet : S) (x y : Nat), y ∈ (c.sch.get x).after →
    x ∈ targetStates c toSet → y ∈ targetStates c toSet →
    (targetStates c toSet).idxOf y < (targetStates c toSet).idxOf x

/-- … is false of the code: `A{After B}`, `Add [A, X, B]` orders A, X, B
    (insertion sort only compares neighbours and `After` is not a strict weak
    order). Indices: 0 Exception, 1 A, 2 X, 3 B. -/
theorem C05_after_order_full_false : ¬ C05_after_order_full := by
  intro h
  let c : RCtx := { sch := { states := [{ multi := true }, { after := [3] }, {}, {}], exc := 0 },
                    before := [], isRemove := false, called := [1, 2, 3], topo := [] }
  have := h c [1, 2, 3] 1 3 (by decide) (by decide) (by decide)
  revert this
  decide

/-- known-finding signature `C05-order-after-not-strict-weak`: some state of the
    list has another state of the list in its After relation (so the second,
    non-strict-weak sorting pass is not the identity), or the Require topology is
    empty (Require cycle: the order is unsatisfiable). Same predicate in the Go
    monitor (`sigC05After`). -/
def sigC05After (sch : Schema) (topo l : S) : Bool :=
  topo.isEmpty || l.any (fun x => l.any (fun y => (sch.get x).after.contains y))

/-- C05 order clause, partial: outside the signature the handler order is the
    Require-topology order — a stable sort by topology index, which places every
    state after the states it Requires whenever the topology does. -/
theorem C05_order_partial (sch : Schema) (topo l : S) (h : sigC05After sch topo l = false) :
    sortStates sch topo l = sortRequire topo l ∧
    (sortStates sch topo l).Pairwise (fun a b => topoKey topo a ≤ topoKey topo b) := by
  have hfree : ∀ x y, x ∈ sortRequire topo l → y ∈ sortRequire topo l → afterLess sch x y = false := by
    intro x y hx hy
    simp only [sortRequire, mem_isort] at hx hy
    simp only [sigC05After, Bool.or_eq_false_iff, List.any_eq_false] at h
    have h1 : (sch.get y).after.contains x = false := by
      have := h.2 y hy
      simp only [Bool.not_eq_true, List.any_eq_false] at this
      simpa using this x hx
    simp only [afterLess, h1, Bool.and_false]
  have e : sortStates sch topo l = sortRequire topo l := by
    unfold sortStates
    exact isort_id_of_false _ _ hfree
  exact ⟨e, e ▸ sortRequire_sorted topo l⟩

/-- non-vacuity: a list without After relations among its states. -/
example : sigC05After { states := [{}, { require := [2] }, {}], exc := 0 } [2, 1] [1, 2] = false := by
  decide

end Am
