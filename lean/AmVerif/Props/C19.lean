/-
  C19 — shipped schemas are well-formed; exclusive groups hold in every
  reachable state. Per-schema obligations are in
  AmVerif/Generated (regenerated from /repo on every run).
-/
import AmVerif.Props.C02
import AmVerif.Model.SchemaParse
namespace Am

/-- C19 (mutual exclusion, resolver level, *every* active set): if the members of
    a group Remove one another and at most one of them is an Add target of any
    state, the resolved target never contains two members — whatever the active
    states before, the mutation and the rest of the schema. -/
theorem C19_mutex_target (c : RCtx) (toSet : S) (grp : S)
    (hmr : ∀ x ∈ grp, ∀ y ∈ grp, x ≠ y → y ∈ (c.sch.get x).remove)
    (hadd : ∀ x ∈ grp, ∀ y ∈ grp, IsAddTarget c.sch x → IsAddTarget c.sch y → x = y) :
    ∀ x ∈ targetStates c toSet, ∀ y ∈ targetStates c toSet, x ∈ grp → y ∈ grp → x = y := by
  intro x hx y hy hxg hyg
  apply Decidable.byContradiction
  intro hne
  -- each Removes the other, so both are Add targets
  exact hne (hadd x hxg y hyg (isAddTarget_of_remove_mem hx hy (hmr x hxg y hyg hne))
    (isAddTarget_of_remove_mem hy hx (hmr y hyg x hxg (Ne.symm hne))))

/-- the decidable side conditions imply the hypotheses of `C19_mutex_target`. -/
theorem groupOK_spec (g : GenSchema) (grp : S)
    (h : (g.mutualRemove grp && g.mutexStatic grp) = true) :
    (∀ x ∈ grp, ∀ y ∈ grp, x ≠ y → y ∈ (g.schema.get x).remove) ∧
    (∀ x ∈ grp, ∀ y ∈ grp, IsAddTarget g.schema x → IsAddTarget g.schema y → x = y) := by
  simp only [Bool.and_eq_true] at h
  obtain ⟨h1, h2⟩ := h
  constructor
  · intro x hx y hy hne
    simp only [GenSchema.mutualRemove, List.all_eq_true, Bool.or_eq_true, beq_iff_eq,
      List.contains_iff_mem] at h1
    exact (h1 x hx y hy).resolve_left hne
  · intro x hx y hy ax ay
    -- both lie in a duplicate-free list of length ≤ 1
    have mem : ∀ z ∈ grp, IsAddTarget g.schema z → z ∈ uniq (grp.filter (g.addTargets.contains ·)) :=
      fun z hz az => by
        simp only [mem_uniq, List.mem_filter, List.contains_iff_mem]
        exact ⟨hz, az.mem_flatten⟩
    have mx := mem x hx ax
    have my := mem y hy ay
    simp only [GenSchema.mutexStatic, decide_eq_true_eq] at h2
    generalize uniq (grp.filter (g.addTargets.contains ·)) = l at mx my h2
    match l, h2 with
    | [a], _ => rw [List.mem_singleton.1 mx, List.mem_singleton.1 my]
    | [], _ => cases mx
    | _ :: _ :: _, h2 => simp at h2

/-- exclusive groups, all histories, every oracle: a fault cannot break the exclusion, because the
    recovery only removes states. -/
theorem mutex_all_histories (g : GenSchema) (grp : S)
    (h : (g.mutualRemove grp && g.mutexStatic grp) = true)
    (alpha : S) (orc : Oracle) (fuel : Nat) (ops : List Op) :
    let m := runOps orc fuel (Mach.init g.schema alpha) ops
    ∀ x ∈ m.active, ∀ y ∈ m.active, x ∈ grp → y ∈ grp → x = y := by
  obtain ⟨hmr, hadd⟩ := groupOK_spec g grp h
  -- `hP` speaks of every resolver context, hence of every schema: the property is guarded by
  -- "the schema is this one"
  exact runOps_active_inv
    (P := fun s a => s = g.schema → ∀ x ∈ a, ∀ y ∈ a, x ∈ grp → y ∈ grp → x = y)
    (fun c ts hs => C19_mutex_target c ts grp (hs ▸ hmr) (hs ▸ hadd))
    (fun _ _ _ _ hs ha e x hx y hy => ha e x (hs.subset hx) y (hs.subset hy))
    g.schema alpha orc (orcF_true orc) fuel ops (fun _ _ hx => nomatch hx) rfl

/-- C19 (exclusive groups, all histories): on a machine built from a schema whose
    group passes the static check, no finite history of mutations (any Add /
    Remove / Set, with any non-faulting handlers) reaches an active set with two
    members of the group. -/
theorem C19_mutex_all_histories (g : GenSchema) (grp : S)
    (h : (g.mutualRemove grp && g.mutexStatic grp) = true)
    (alpha : S) (orc : Oracle) (hff : FaultFree orc) (fuel : Nat) (ops : List Op) :
    let m := runOps orc fuel (Mach.init g.schema alpha) ops
    ∀ x ∈ m.active, ∀ y ∈ m.active, x ∈ grp → y ∈ grp → x = y :=
  mutex_all_histories g grp h alpha orc fuel ops

/-- C19 (Require closure, all histories) is C02's theorem: nothing per schema. -/
theorem C19_require_all_histories (sch : Schema) (alpha : S) (orc : Oracle)
    (hff : FaultFree orc) (fuel : Nat) (ops : List Op) :
    let m := runOps orc fuel (Mach.init sch alpha) ops
    ∀ x ∈ m.active, ∀ r ∈ (sch.get x).require, r ∈ m.active :=
  C02_require_closed_all_histories sch alpha orc hff fuel ops

end Am
