/-
  C02 — relations keep the active set consistent after every transition.
-/
import AmVerif.Props.Common
namespace Am

/-- C02(a), resolver level, unconditional: whatever the schema (cycles, chains,
    self references), the active set, the mutation and the topology, every state
    of the resolved target has all its Require states in the target. -/
theorem C02_require_closed (c : RCtx) (toSet : S) :
    ∀ x ∈ targetStates c toSet, ∀ r ∈ (c.sch.get x).require, r ∈ targetStates c toSet :=
  targetStates_closed c toSet

/-- C02(e): the resolved target never lists a state twice. -/
theorem C02_target_nodup (c : RCtx) (toSet : S) : (targetStates c toSet).Nodup :=
  targetStates_nodup c toSet

/-- C02(a), all histories: after any history without handler panics/timeouts,
    with any vetoes, nested mutations, auto mutations and partial auto
    acceptance, every active state has all its Require states active. -/
theorem C02_require_closed_all_histories (sch : Schema) (alpha : S) (orc : Oracle)
    (hff : FaultFree orc) (fuel : Nat) (ops : List Op) :
    let m := runOps orc fuel (Mach.init sch alpha) ops
    ∀ x ∈ m.active, ∀ r ∈ (sch.get x).require, r ∈ m.active :=
  runOps_active_inv (P := ReqClosed) targetStates_closed False.elim sch alpha orc hff fuel ops
    (fun _ h => nomatch h)

/-- C02(b) at full strength. -/
def C02_remove_consistent_full : Prop :=
  ∀ (c : RCtx) (toSet : S) (x y : Nat),
    x ∈ targetStates c toSet → y ∈ targetStates c toSet → y ∉ (c.sch.get x).remove

/-- known-finding signature `C02-readd-after-blocked-blocker` for an offending
    pair (x Removes y): the remover `x` is not a survivor of the reverse scan —
    it was blocked there and re-introduced by the second `parseAdd`.
    Implemented identically in the Go monitor (`sigC02Readd`). -/
def sigC02Readd (c : RCtx) (toSet : S) (x : Nat) : Bool :=
  !(scanSurvivors c toSet).contains x

/-- witness: `S{Add A} A{Remove B} C{Remove A} D{Remove C}`, active `{B, C}`,
    `Add [S, D]`. Indices: 0 Exception, 1 S, 2 A, 3 B, 4 C, 5 D. -/
def c02WitnessCtx : RCtx :=
  { sch := { states := [{ multi := true }, { add := [2] }, { remove := [3] }, {},
                        { remove := [2] }, { remove := [4] }], exc := 0 },
    before := [3, 4], isRemove := false, called := [1, 5], topo := [] }

theorem C02_remove_consistent_full_false : ¬ C02_remove_consistent_full := by
  intro h
  exact h c02WitnessCtx (statesToSet .add [3, 4] [1, 5]) 2 3 (by decide) (by decide) (by decide)

/-- the witness is an instance of the recorded signature (A = 2 Removes B = 3). -/
example : sigC02Readd c02WitnessCtx (statesToSet .add [3, 4] [1, 5]) 2 = true := by decide

/-- C02(b), partial: outside the recorded signature the statement holds — a
    state that survives the reverse scan and is in the target excludes every
    state it Removes from the target. Together with the signature this is the
    full statement: `full ↔ no pair matches the signature`. -/
theorem C02_remove_consistent_partial (c : RCtx) (toSet : S) (x y : Nat)
    (hsig : sigC02Readd c toSet x = false)
    (hy : y ∈ (c.sch.get x).remove) : y ∉ targetStates c toSet :=
  fun hyt => (mem_targetStates_cases hyt).2 x (by simpa [sigC02Readd] using hsig) hy

/-- non-vacuity of the partial theorem: in the witness, D (= 5) survives the scan
    and Removes C (= 4), which is indeed absent from the target. -/
example : sigC02Readd c02WitnessCtx (statesToSet .add [3, 4] [1, 5]) 5 = false ∧
    4 ∈ (c02WitnessCtx.sch.get 5).remove := by decide

end Am
