/-
  C01 — tick parity is activity, ticks only grow, by the documented step.
-/
import AmVerif.Props.Common
namespace Am

/-- C01 (parity, all histories): for every schema, every handler oracle
    (including vetoes, panics, timeouts and handlers that mutate) and every
    finite history of Add/Remove/Set/Toggle/AddErr/CanAdd/CanRemove and
    configuration changes, a state is in the active list exactly when its tick
    is odd, and the active list has no duplicates. -/
theorem C01_parity_all_histories (sch : Schema) (alpha : S) (orc : Oracle) (fuel : Nat)
    (ops : List Op) :
    let m := runOps orc fuel (Mach.init sch alpha) ops
    m.active.Nodup ∧ ∀ j, j < sch.n → (j ∈ m.active ↔ m.tick j % 2 = 1) := by
  intro m
  obtain ⟨h, hl⟩ := inv_runOps sch alpha orc fuel ops
  exact ⟨h.nodup, fun j hj => h.parity j (hl ▸ hj)⟩

/-- C01 (monotone): extending a history never decreases any tick. -/
theorem C01_ticks_monotone (sch : Schema) (alpha : S) (orc : Oracle) (fuel : Nat)
    (ops more : List Op) (j : Nat) (hj : j < sch.n) :
    (runOps orc fuel (Mach.init sch alpha) ops).tick j ≤
      (runOps orc fuel (Mach.init sch alpha) (ops ++ more)).tick j := by
  obtain ⟨h0, hl⟩ := inv_runOps sch alpha orc fuel ops
  rw [show runOps orc fuel _ (ops ++ more) = _ from List.foldl_append]
  exact (good_runOps orc fuel more _).mono h0 j (hl ▸ hj)

/-- C01 (views agree): `Is1`/`Not1`/`Any1` are the membership test and hence,
    by parity, functions of the tick. -/
theorem C01_views_agree (sch : Schema) (alpha : S) (orc : Oracle) (fuel : Nat)
    (ops : List Op) (j : Nat) (hj : j < sch.n) :
    let m := runOps orc fuel (Mach.init sch alpha) ops
    (m.is [j] = true ↔ m.tick j % 2 = 1) ∧ (m.not [j] = true ↔ m.tick j % 2 ≠ 1) := by
  intro m
  have hp := (C01_parity_all_histories sch alpha orc fuel ops).2 j hj
  have hs : m.sch.n = sch.n := congrArg Schema.n (runOps_sch orc fuel ops _)
  rw [Mach.is_singleton, hs, Mach.not_singleton]
  exact ⟨(and_iff_right hj).trans hp, not_congr hp⟩

/-- C01 (documented step): one application of the target states moves a tick by
    exactly +1 (activity flipped), +2 (an active, directly called Multi state
    stays active) or 0. -/
theorem C01_documented_step (sch : Schema) (active : S) (clock : List Nat) (called target : S)
    (ht : target.Nodup) (ha : active.Nodup) (j : Nat) (hj : j < clock.length) :
    (tickClock sch active clock called target).getD j 0 - clock.getD j 0 =
      if (j ∈ active) ≠ (j ∈ target) then 1
      else if j ∈ active ∧ j ∈ target ∧ j ∈ called ∧ (sch.get j).multi = true then 2
      else 0 := by
  rw [getD_tickClock sch active clock called target ht ha j hj, Nat.add_sub_cancel_left]

/-- non-vacuity: a concrete schema with a Multi state, run through the model. -/
example :
    let sch : Schema := { states := [{ multi := true }, { add := [0] }], exc := 0 }
    let m := runOps (fun _ _ _ => none) 50 (Mach.init sch [0, 1])
      [.mutate { kind := .add, states := [1] }, .mutate { kind := .add, states := [0] }]
    m.active = [0, 1] ∧ m.clock = [3, 1] := by decide

end Am
