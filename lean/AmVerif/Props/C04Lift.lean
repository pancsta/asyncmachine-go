/-
  C04, the sequential side: a mutation issued while a transition runs is queued, not nested; the
  drain loop shifts in tick order; and the tick promise over whole histories: the only things that ever touch the queue, the
  queue tick or the pending counter are `queueMutation` (append, tick promised), `prepend`
  (tick-less) and the drain loop's shift; everything else a transition does leaves the three
  alone. Hence `TickInv` — the waiting ticked mutations carry, in queue order, exactly the next
  `pending` queue ticks — holds after every finite history of operations, handlers that mutate,
  panic or time out included.
-/
import AmVerif.Props.Common
namespace Am

/-- queue ticks promised to callers that are still waiting, in queue order. -/
def tickedOf (q : List Mut) : List Nat := (q.filter (fun mu => mu.qtick > 0)).map (·.qtick)

/-- the tick promise: the waiting ticked mutations carry, in queue order, exactly
    the next `pending` queue ticks. -/
def TickInv (m : Mach) : Prop := tickedOf m.queue = List.range' (m.queueTick + 1) m.pending

/-- **C04 (queued, not nested)**: a mutation issued while a transition is in
    progress changes neither the active states nor any tick; it is appended to the
    queue (or refused) and the caller gets `Queued` with the position. -/
theorem C04_nested_is_queued (m : Mach) (r : MutReq) :
    (issueNested m r).1.active = m.active ∧ (issueNested m r).1.clock = m.clock ∧
    ((issueNested m r).1.queue = m.queue ∨
      ∃ mu : Mut, (issueNested m r).1.queue = m.queue ++ [mu] ∧
        mu.qtick = m.queueTick + m.pending + 1 ∧
        (issueNested m r).2 = .queued mu.qtick) := by
  unfold issueNested
  split
  · exact ⟨rfl, rfl, .inl rfl⟩
  · split
    · exact ⟨rfl, rfl, .inl rfl⟩
    · rcases queueMutation_eq m r with h | ⟨mu, hq, h⟩ <;> rw [h]
      · exact ⟨rfl, rfl, .inl rfl⟩
      · exact ⟨rfl, rfl, .inr ⟨mu, rfl, by omega, rfl⟩⟩

theorem tickedOf_append (q r : List Mut) : tickedOf (q ++ r) = tickedOf q ++ tickedOf r := by
  simp [tickedOf]

theorem tickedOf_cons (mu : Mut) (q : List Mut) :
    tickedOf (mu :: q) = if mu.qtick > 0 then mu.qtick :: tickedOf q else tickedOf q := by
  unfold tickedOf
  rw [List.filter_cons]
  split <;> simp_all

theorem tickInv_queueMutation (m : Mach) (r : MutReq) (h : TickInv m) :
    TickInv (queueMutation m r).1 := by
  rcases queueMutation_eq m r with e | ⟨mu, hq, e⟩ <;> rw [e]
  · exact h
  · show tickedOf (m.queue ++ [mu]) = List.range' (m.queueTick + 1) (m.pending + 1)
    rw [tickedOf_append, tickedOf_cons, if_pos (by omega), h, List.range'_concat, hq]
    congr 2; omega

theorem tickInv_prepend (m : Mach) (mu : Mut) (h0 : mu.qtick = 0) (h : TickInv m) :
    TickInv (prepend m mu) :=
  (tickedOf_cons mu m.queue).trans ((if_neg (by omega)).trans h)

/-- **C04 (in tick order), one step**: when the drain loop shifts a mutation that
    was promised a queue tick, that tick is exactly the machine's next queue
    tick — so promised ticks are honoured in order — and the promise is kept for
    everything still waiting. -/
theorem C04_shift_in_tick_order (m : Mach) (mu : Mut) (rest : List Mut)
    (hq : m.queue = mu :: rest) (h : TickInv m) :
    TickInv (shiftQueue m mu rest) ∧
    (mu.qtick > 0 → (shiftQueue m mu rest).queueTick = mu.qtick) := by
  rw [TickInv, hq, tickedOf_cons] at h
  unfold shiftQueue
  by_cases hk : mu.qtick > 0
  · simp only [hk, if_true] at h ⊢
    cases hp : m.pending with
    | zero => rw [hp] at h; cases h
    | succ k =>
      rw [hp, List.range'_succ, List.cons.injEq] at h
      exact ⟨h.2, fun _ => h.1.symm⟩
  · simp only [hk, if_false] at h ⊢
    exact ⟨h, fun h' => h'.elim⟩

theorem tickInv_init (sch : Schema) (alpha : S) : TickInv (Mach.init sch alpha) := by
  simp [TickInv, tickedOf, Mach.init]

/-- non-vacuity: a machine with two waiting callers. -/
def exMach : Mach :=
  { sch := default, topo := [], clock := [], queueTick := 4, pending := 2,
    queue := [({ kind := MutKind.add, called := [0], qtick := 5 } : Mut),
              ({ kind := MutKind.add, called := [1] } : Mut),
              ({ kind := MutKind.remove, called := [0], qtick := 6 } : Mut)] }
example : TickInv exMach := by unfold TickInv; decide

/-- how a step may change (queue, queueTick, pending). -/
inductive QP : Mach → Mach → Prop
  | same {m m' : Mach} : m'.queue = m.queue → m'.queueTick = m.queueTick → m'.pending = m.pending → QP m m'
  | enq {m : Mach} (r : MutReq) : QP m (queueMutation m r).1
  | pre {m : Mach} (mu : Mut) : mu.qtick = 0 → QP m (prepend m mu)
  | trans {a b c : Mach} : QP a b → QP b c → QP a c

theorem QP.tickInv {m m' : Mach} (h : QP m m') : TickInv m → TickInv m' := by
  induction h with
  | same hq ht hp => unfold TickInv; rw [hq, ht, hp]; exact id
  | enq r => exact tickInv_queueMutation _ r
  | pre mu h0 => exact tickInv_prepend _ mu h0
  | trans _ _ ih1 ih2 => exact fun h => ih2 (ih1 h)

theorem qp_applyActive (m : Mach) (c t : S) : QP m (applyActive m c t) := QP.same rfl rfl rfl
theorem qp_emit (m : Mach) (e : Ev) : QP m (m.emit e) := QP.same rfl rfl rfl

theorem Path.qp {G : Prop} {E : Ev → Prop} {m m' : Mach} {t t' : Tx} (h : Path G E m t m' t') : QP m m' := by
  induction h with
  | trans _ _ ih1 ih2 => exact ih1.trans ih2
  | silent s => exact .same s.queue s.queueTick s.pending
  | enq r => exact .enq r
  | pre mu h => exact .pre mu h
  | _ => exact .same rfl rfl rfl

theorem qp_finish (m : Mach) (t : Tx) (r : Bool) : QP m (finish m t r).1 := by
  rw [finish_fst]; exact qp_emit _ _

theorem qp_applyPhase (orc : Oracle) (m1 : Mach) (t2 : Tx) : QP m1 (applyPhase orc m1 t2).1 := by
  have g : QP m1 (applyTarget m1 t2).1 := .same rfl rfl rfl
  obtain ⟨m4, t4, m6, t6, b, p4, p6, e⟩ := applyPhase_path orc (orcF_true orc) m1 t2
  rw [e]
  exact ((g.trans p4.qp).trans p6.qp).trans (qp_finish _ _ _)

theorem qp_emitEvents (orc : Oracle) (m0 : Mach) (t0 : Tx) : QP m0 (emitEvents orc m0 t0).1 := by
  have q0 : QP m0 (negotiate orc (m0.emit (.tStart t0.accepted)) t0 t0.accepted).1 :=
    (qp_emit m0 _).trans (negotiate_path orc _ t0 t0.accepted).qp
  rcases emitEvents_cases orc m0 t0 with ⟨_, h⟩ | ⟨t, b, h⟩ | ⟨_, _, h⟩ <;> rw [h]
  · exact q0
  · exact q0.trans (qp_finish _ _ _)
  · exact q0.trans (qp_applyPhase orc _ _)

theorem tickInv_runOne (orc : Oracle) (m : Mach) (mu : Mut) (rest : List Mut)
    (hq : m.queue = mu :: rest) (h : TickInv m) : TickInv (runOne orc m mu rest).1 := by
  have h1 : TickInv (newTx (shiftQueue m mu rest) mu).1 :=
    (QP.same rfl rfl rfl).tickInv (C04_shift_in_tick_order m mu rest hq h).1
  have s := runOne_silent orc m mu rest
  exact (QP.same s.queue s.queueTick s.pending).tickInv ((qp_emitEvents orc _ _).tickInv h1)

/-- **C04 (queued mutations run in the order of their queue ticks, none is lost — all
    histories)**: for every schema, every handler oracle (handlers that issue nested mutations,
    veto, panic, time out or detach bindings) and every finite history of operations, the
    mutations still waiting with a promised queue tick carry, in queue order, exactly the next
    `pending` ticks after the machine's current queue tick — so each shift honours the oldest
    promise (`C04_shift_in_tick_order`) and no promised tick is skipped or issued twice. -/
theorem C04_tick_promise_all_histories (sch : Schema) (alpha : S) (orc : Oracle) (fuel : Nat)
    (ops : List Op) : TickInv (runOps orc fuel (Mach.init sch alpha) ops) :=
  runOps_inv orc (hsil := fun s => (QP.same s.queue s.queueTick s.pending).tickInv)
    (hend := fun _ => (QP.same rfl rfl rfl).tickInv) (henq := tickInv_queueMutation)
    (hpre := tickInv_prepend) (hone := fun m mu rest hq _ => tickInv_runOne orc m mu rest hq)
    fuel ops _ (tickInv_init sch alpha)

/-- non-vacuity: two promises outstanding. -/
example : TickInv exMach ∧ exMach.pending = 2 := ⟨by unfold TickInv; decide, rfl⟩

end Am
