/-
  C10 — RPC clock diffs round-trip exactly and the checksum catches any drift.
  The equations of `mkData` / `clientApply`, the mode-independent `apply_calcUpdate`, and the deep
  theorems as its instance.
-/
import AmVerif.Lemmas.RpcCodec
namespace Am.Rpc
open Am

/-- the tracked list names distinct states of an `n`-state machine; message
    indexes are `uint16`. -/
structure WF (c : Cfg) (n : Nat) : Prop where
  nodup : c.tracked.Nodup
  lt : ∀ i ∈ c.tracked, i < n
  /-- (implied by the two above; stated to keep the proofs in core Lean) -/
  len_le : c.tracked.length ≤ n
  small : n ≤ 65536

/-- the time vector the server keeps for a snapshot (deep mode). -/
def dataOf (c : Cfg) (s : Snap) : List Nat :=
  if !c.syncSchema then filterT s.time c.tracked else s.time

/-- the client's mirror holds snapshot `s`: every synchronised state has the
    source's tick, nothing else is counted, queue and machine ticks agree. -/
structure Holds (c : Cfg) (mi : Mirror) (s : Snap) : Prop where
  len : mi.time.length = (dataOf c s).length
  agree : ∀ p ∈ pushedList c, mi.time.getD p 0 = (dataOf c s).getD p 0
  sum : mi.time.sum = ((pushedList c).map (fun p => (dataOf c s).getD p 0)).sum
  q : mi.q = s.q
  m : mi.m = s.m

theorem sum_add_sub (P : List Nat) (a b : Nat → Nat) (h : ∀ p ∈ P, a p ≤ b p) :
    (P.map a).sum + (P.map (fun p => b p - a p)).sum = (P.map b).sum := by
  induction P with
  | nil => rfl
  | cons x t ih =>
    have hx := h x (by simp)
    have := ih (fun p hp => h p (List.mem_cons_of_mem _ hp))
    simp only [List.map_cons, List.sum_cons]
    omega

theorem pushed_nodup {c : Cfg} {n : Nat} (wf : WF c n) : (pushedList c).Nodup := by
  unfold pushedList; split
  · exact wf.nodup
  · exact List.nodup_range

theorem dataOf_length (c : Cfg) (s : Snap) :
    (dataOf c s).length = if c.syncSchema then s.time.length else c.tracked.length := by
  unfold dataOf filterT; cases c.syncSchema <;> simp

theorem pushed_lt {c : Cfg} {n : Nat} (wf : WF c n) (s : Snap) (hn : s.time.length = n) :
    ∀ p ∈ pushedList c, p < (dataOf c s).length ∧ p < 65536 := by
  intro p hp
  rw [dataOf_length, hn]
  unfold pushedList at hp
  cases hs : c.syncSchema <;> simp only [hs, Bool.false_eq_true, if_false, if_true] at hp ⊢
  · have := List.mem_range.1 hp
    exact ⟨this, Nat.lt_of_lt_of_le this (Nat.le_trans wf.len_le wf.small)⟩
  · exact ⟨wf.lt p hp, Nat.lt_of_lt_of_le (wf.lt p hp) wf.small⟩

theorem filterT_pushed (c : Cfg) (v : List Nat) (hv : c.syncSchema = false → v.length = c.tracked.length) :
    filterT v (pushedList c) = if c.syncSchema then filterT v c.tracked else v := by
  unfold pushedList
  cases h : c.syncSchema
  · rw [← hv h]; exact map_getD_range v
  · rfl

theorem mkData_mTime (c : Cfg) (s : Snap) :
    (mkData c s).mTime = if c.shallow then (dataOf c s).map (· % 2) else dataOf c s := by
  unfold mkData dataOf; cases c.shallow <;> rfl

theorem mkData_mTime_deep {c : Cfg} (hd : c.shallow = false) (s : Snap) : (mkData c s).mTime = dataOf c s := by
  rw [mkData_mTime, hd]; rfl

theorem mkData_q (c : Cfg) (s : Snap) : (mkData c s).q = s.q := by unfold mkData; cases c.shallow <;> rfl

theorem mkData_m (c : Cfg) (s : Snap) : (mkData c s).m = s.m := by unfold mkData; cases c.shallow <;> rfl

theorem mkData_checksum (c : Cfg) (s : Snap) :
    (mkData c s).checksum = checksum (mkData c s).sum s.q s.m := by unfold mkData; cases c.shallow <;> rfl

/-- in either mode the sum the server puts in the checksum is the sum of the vector it sends from,
    over the pushed indexes. -/
theorem mkData_sum (c : Cfg) (s : Snap) :
    (mkData c s).sum = lsum (filterT (mkData c s).mTime (pushedList c)) := by
  rw [filterT_pushed c _ (fun h => by rw [mkData_mTime, dataOf]; split <;> simp [h, filterT])]
  unfold mkData
  cases c.shallow <;> cases c.syncSchema <;> rfl

theorem clientChecksum_deep {c : Cfg} (hd : c.shallow = false) (mi : Mirror) :
    clientChecksum c mi = checksum mi.time.sum mi.q mi.m := by
  simp [clientChecksum, hd, lsum]

theorem clientApply_eq (c : Cfg) (u : Update) (mi : Mirror) : clientApply c u mi =
    if clientChecksum c (clockFromUpdate u mi) = u.checksum then some (clockFromUpdate u mi) else none := by
  simp only [clientApply, beq_iff_eq]

/-- **the diff transports the mirror**: if the pairs the server's loop yields are the sparse diff
    of a per-state delta `δ` (deep: the tick difference, shallow: the parity flip), the client's
    loop adds `δ p` to every pushed state `p` and nothing else, and the queue and machine ticks
    arrive, provided their deltas fit the `uint16` / `uint8` fields and the machine tick is below
    2^32 (the client keeps it in a `uint32`: `clockFromUpdate` reduces it mod 2^32). Both round
    trips are this with their own `δ`, followed by their own checksum. -/
theorem apply_calcUpdate (c : Cfg) (sh : Bool) (δ : Nat → Nat) (data last : TData) (mi : Mirror)
    (hgen : (if sh then genShallow c data.mTime last.mTime else genDeep c data.mTime last.mTime) =
      diffPairs δ (pushedList c))
    (hnd : (pushedList c).Nodup) (hlt : ∀ p ∈ pushedList c, p < mi.time.length)
    (hq : mi.q = last.q ∧ last.q ≤ data.q ∧ data.q - last.q < 65536)
    (hm : mi.m = last.m ∧ last.m ≤ data.m ∧ data.m - last.m < 256 ∧ data.m < 4294967296) :
    ∃ t, clockFromUpdate (calcUpdate c sh data last) mi = { time := t, q := data.q, m := data.m } ∧
      t.length = mi.time.length ∧ (∀ p ∈ pushedList c, t.getD p 0 = mi.time.getD p 0 + δ p) ∧
      t.sum = mi.time.sum + ((pushedList c).map δ).sum := by
  refine ⟨(pushedList c).foldl (fun t p => incr t p (δ p)) mi.time, ?_, length_foldl_incr _ _ _,
    fun p hpp => ?_, sum_foldl_incr _ _ _ hlt⟩
  · simp only [clockFromUpdate_eq, calcUpdate, zip_map_fst_snd, Mirror.mk.injEq]
    refine ⟨?_, ?_, ?_⟩
    · rw [← applyPairs_diffPairs δ _ _ hlt, ← hgen]
    · rw [hq.1, subMod_eq hq.2.1 hq.2.2, Nat.add_sub_cancel' hq.2.1]
    · rw [hm.1, subMod_eq hm.2.1 hm.2.2.1, Nat.add_sub_cancel' hm.2.1, Nat.mod_eq_of_lt hm.2.2.2]
  · rw [getD_foldl_incr _ _ hnd _ p (hlt p hpp), if_pos hpp]

/-- C10 (deep round trip): the update derived from two successive snapshots,
    applied to a mirror holding the first, is accepted by the checksum and leaves
    the mirror holding exactly the second — every synchronised tick, the queue
    tick and the machine tick — for every state count, tracked subset and index
    space, provided the per-state / queue / machine deltas fit the uint32 /
    uint16 / uint8 message fields. `last` is whatever the server memorised for
    the first snapshot (the hello export or the previous tracer data). -/
theorem C10_roundtrip_deep (c : Cfg) (n : Nat) (wf : WF c n) (hd : c.shallow = false)
    (prev now : Snap) (hp : prev.time.length = n) (hn : now.time.length = n)
    (hmono : ∀ p ∈ pushedList c, (dataOf c prev).getD p 0 ≤ (dataOf c now).getD p 0 ∧
      (dataOf c now).getD p 0 - (dataOf c prev).getD p 0 < 4294967296)
    (hq : prev.q ≤ now.q ∧ now.q - prev.q < 65536)
    (hm : prev.m ≤ now.m ∧ now.m - prev.m < 256 ∧ now.m < 4294967296)
    (last : TData) (hl1 : last.mTime.length = (dataOf c prev).length)
    (hl2 : ∀ p ∈ pushedList c, last.mTime.getD p 0 = (dataOf c prev).getD p 0)
    (hl3 : last.q = prev.q ∧ last.m = prev.m)
    (mi : Mirror) (hh : Holds c mi prev) :
    ∃ mi', clientApply c (calcUpdate c false (mkData c now) last) mi = some mi' ∧ Holds c mi' now := by
  have hP := pushed_lt wf prev hp
  have hmt := mkData_mTime_deep hd now
  have hgen : genDeep c (mkData c now).mTime last.mTime =
      diffPairs (fun p => (dataOf c now).getD p 0 - last.mTime.getD p 0) (pushedList c) := by
    rw [hmt]
    refine genDeep_eq c _ _ ?_ (fun p hpp => ?_)
    · rw [hl1, dataOf_length, hp]
      split
      · exact wf.len_le
      · exact Nat.le_refl _
    · rw [hl2 p hpp]; exact ⟨(hP p hpp).2, hmono p hpp⟩
  obtain ⟨t, hap, hlen, hpt, hsum⟩ := apply_calcUpdate c false _ (mkData c now) last mi hgen
    (pushed_nodup wf) (fun p hpp => hh.len ▸ (hP p hpp).1)
    (by rw [mkData_q, hl3.1]; exact ⟨hh.q, hq⟩) (by rw [mkData_m, hl3.2]; exact ⟨hh.m, hm⟩)
  have hsum' : t.sum = ((pushedList c).map (fun p => (dataOf c now).getD p 0)).sum := by
    rw [hsum, hh.sum, ← sum_add_sub _ _ _ (fun p hpp => (hmono p hpp).1)]
    congr 2
    exact List.map_congr_left (fun p hpp => by rw [hl2 p hpp])
  refine ⟨_, (clientApply_eq c _ mi).trans (if_pos ?_), ?_⟩
  · rw [hap, clientChecksum_deep hd, hsum', mkData_q, mkData_m]
    show _ = (mkData c now).checksum
    rw [mkData_checksum, mkData_sum, hmt]
    rfl
  · rw [hap]
    refine ⟨?_, fun p hpp => ?_, hsum', mkData_q c now, mkData_m c now⟩
    · rw [hlen, hh.len, dataOf_length, dataOf_length, hp, hn]
    · rw [hpt p hpp, hh.agree p hpp, hl2 p hpp]
      exact Nat.add_sub_cancel' (hmono p hpp).1

/-- the deep checksum is additive in the ticks: after any update it is the mirror's own total plus
    what the update's in-range pairs, queue and machine deltas add (the machine tick wraps at 2^32,
    a multiple of 256). -/
theorem clientChecksum_clockFromUpdate_deep {c : Cfg} (hd : c.shallow = false) (u : Update) (mi : Mirror) :
    clientChecksum c (clockFromUpdate u mi) =
      (mi.time.sum + mi.q + mi.m +
        ((((u.idxs.zip u.ticks).filter (fun p => p.1 < mi.time.length)).map (·.2)).sum + u.q + u.m)) % 256 := by
  rw [clientChecksum_deep hd, clockFromUpdate_eq]
  simp only [sum_applyPairs, checksum]
  rw [Nat.add_mod _ (_ % 4294967296), Nat.mod_mod_of_dvd _ (⟨16777216, rfl⟩ : 256 ∣ 4294967296), ← Nat.add_mod]
  congr 1
  omega

theorem add_mod_cancel {a b k n : Nat} (hn : 0 < n) (h : (a + k) % n = (b + k) % n) : a % n = b % n := by
  -- add what `k` lacks to the multiple `n * k` of `n`
  have := Nat.add_mod_eq_add_mod_right (n * k - k) h
  rwa [Nat.add_assoc, Nat.add_assoc, Nat.add_sub_cancel' (Nat.le_mul_of_pos_left k hn),
    Nat.add_mul_mod_self_left, Nat.add_mul_mod_self_left] at this

/-- C10 (drift is caught, deep clocks): the deep checksum is additive in the
    ticks, so if two mirrors of the same length differ in
    (tick sum + queue tick + machine tick) modulo 256, no update can be accepted
    by both — in particular an update that fits the mirror holding the first
    snapshot is rejected by a drifted one. -/
theorem C10_reject_drift_deep (c : Cfg) (hd : c.shallow = false) (u : Update) (m1 m2 : Mirror)
    (hlen : m1.time.length = m2.time.length)
    (hdiff : (m1.time.sum + m1.q + m1.m) % 256 ≠ (m2.time.sum + m2.q + m2.m) % 256)
    (hacc : (clientApply c u m1).isSome) : clientApply c u m2 = none := by
  rw [clientApply_eq, Option.isSome_ite, clientChecksum_clockFromUpdate_deep hd, hlen] at hacc
  rw [clientApply_eq, clientChecksum_clockFromUpdate_deep hd]
  exact if_neg fun h2 => hdiff (add_mod_cancel (by decide) (hacc.trans h2.symm))

/-- a vector that is `f` on a duplicate-free index set and 0 elsewhere is what incrementing the
    zero vector at those indexes gives. -/
theorem indicator_eq_foldl (n : Nat) (f : Nat → Nat) (l : List Nat) (hnd : l.Nodup) :
    (List.range n).map (fun i => if l.contains i then f i else 0) =
      l.foldl (fun t p => incr t p (f p)) (List.replicate n 0) := by
  apply List.ext_getElem (by simp [length_foldl_incr])
  intro i h1 h2
  have hi : i < n := by simpa using h1
  have := getD_foldl_incr f l hnd (List.replicate n 0) i (by simpa using hi)
  rw [List.getD_eq_getElem?_getD, List.getElem?_eq_getElem h2, Option.getD_some] at this
  rw [this]
  simp [hi, List.getD_eq_getElem?_getD]

/-- C10: the mirror built from the hello message holds the hello snapshot. -/
theorem C10_hello_holds (c : Cfg) (n : Nat) (wf : WF c n) (s : Snap) (hn : s.time.length = n) :
    Holds c (helloMirror c s) s := by
  cases hs : c.syncSchema
  · have e : (helloMirror c s).time = dataOf c s := by simp [helloMirror, helloTime, dataOf, hs]
    refine ⟨congrArg _ e, fun p _ => by rw [e], ?_, rfl, rfl⟩
    have := filterT_pushed c (dataOf c s) (fun _ => by simp [dataOf, hs, filterT])
    rw [hs] at this
    rw [e]
    exact (congrArg List.sum this).symm
  · have e : (helloMirror c s).time =
        c.tracked.foldl (fun t p => incr t p (s.time.getD p 0)) (List.replicate n 0) := by
      simp only [helloMirror, helloTime, hs, Bool.not_true, Bool.false_eq_true, if_false, hn]
      exact indicator_eq_foldl n _ _ wf.nodup
    have hlt : ∀ p ∈ c.tracked, p < (List.replicate n 0).length := by simpa using wf.lt
    have hd : dataOf c s = s.time := by simp [dataOf, hs]
    have hpl : pushedList c = c.tracked := by simp [pushedList, hs]
    refine ⟨?_, fun p hp => ?_, ?_, rfl, rfl⟩
    · rw [e, length_foldl_incr, hd, hn, List.length_replicate]
    · rw [hpl] at hp
      rw [e, hd, getD_foldl_incr _ _ wf.nodup _ p (hlt p hp), if_pos hp]
      simp [List.getD_eq_getElem?_getD, wf.lt p hp]
    · rw [e, hd, hpl, sum_foldl_incr _ _ _ hlt, List.sum_replicate_nat]
      simp


/-- successive snapshots whose deltas fit the message fields. -/
def ChainOK (c : Cfg) (n : Nat) : Snap → List Snap → Prop
  | _, [] => True
  | prev, s :: rest =>
    s.time.length = n ∧
    (∀ p ∈ pushedList c, (dataOf c prev).getD p 0 ≤ (dataOf c s).getD p 0 ∧
      (dataOf c s).getD p 0 - (dataOf c prev).getD p 0 < 4294967296) ∧
    (prev.q ≤ s.q ∧ s.q - prev.q < 65536) ∧
    (prev.m ≤ s.m ∧ s.m - prev.m < 256 ∧ s.m < 4294967296) ∧ ChainOK c n s rest

/-- the last snapshot of a chain (the start when the chain is empty). -/
def lastSnap : Snap → List Snap → Snap
  | p, [] => p
  | _, s :: rest => lastSnap s rest

/-- C10 (chains of per-mutation updates): a batch of per-mutation diffs, each
    taken against the previous mutation's snapshot, is accepted update by update
    and leaves the mirror holding the last snapshot. -/
theorem C10_chain_deep (c : Cfg) (n : Nat) (wf : WF c n) (hd : c.shallow = false) :
    ∀ (snaps : List Snap) (prev : Snap) (last : TData) (mi : Mirror),
    prev.time.length = n →
    last.mTime.length = (dataOf c prev).length →
    (∀ p ∈ pushedList c, last.mTime.getD p 0 = (dataOf c prev).getD p 0) →
    (last.q = prev.q ∧ last.m = prev.m) →
    Holds c mi prev → ChainOK c n prev snaps →
    ∃ mi', clientApplyMuts c (calcUpdateMuts c (snaps.map (mkData c)) last) mi = (mi', true) ∧
      Holds c mi' (lastSnap prev snaps) := by
  intro snaps
  induction snaps with
  | nil => intro prev last mi _ _ _ _ hh _; exact ⟨mi, rfl, hh⟩
  | cons s rest ih =>
    intro prev last mi hp hl1 hl2 hl3 hh hc
    obtain ⟨hn, hmono, hq, hm, hrest⟩ := hc
    obtain ⟨mi1, ha, hh1⟩ := C10_roundtrip_deep c n wf hd prev s hp hn hmono hq hm last hl1 hl2 hl3 mi hh
    have hdn := mkData_mTime_deep hd s
    obtain ⟨mi2, hb, hh2⟩ := ih s (mkData c s) mi1 hn (by rw [hdn]) (by intro p _; rw [hdn])
      ⟨mkData_q c s, mkData_m c s⟩ hh1 hrest
    refine ⟨mi2, ?_, ?_⟩
    · simp only [List.map_cons, calcUpdateMuts, clientApplyMuts, ha]
      exact hb
    · exact hh2

/-- non-vacuity: a concrete configuration (schema-less index space, a proper
    tracked subset) meets every hypothesis of the round-trip theorem. -/
example :
    let c : Cfg := { syncSchema := false, shallow := false, tracked := [0, 2] }
    let prev : Snap := { time := [1, 7, 2], q := 3, m := 0 }
    let now : Snap := { time := [4, 9, 2], q := 5, m := 0 }
    WF c 3 ∧ Holds c (helloMirror c prev) prev ∧
    clientApply c (calcUpdate c false (mkData c now) (helloData c prev)) (helloMirror c prev)
      = some { time := [4, 2], q := 5, m := 0 } := by
  refine ⟨⟨by decide, by decide, by decide, by decide⟩, ⟨by decide, by decide, by decide, rfl, rfl⟩, by decide⟩

end Am.Rpc
