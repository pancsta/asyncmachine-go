/-
  C12 — the machine API is safe for concurrent use: no data races.
  (1) the lock discipline theorem over traces; (2) the regenerated lock table
  satisfies the hand-written guard expectations.
-/
import AmVerif.Model.Lockset
import AmVerif.Generated.Locks
import AmVerif.Props.C12Expect
namespace Am.Lockset

/-- two holdings are compatible: on the same lock both are readers. -/
def Compat (a b : Nat × Nat × Bool) : Prop := a.2.1 = b.2.1 → (a.2.2 = false ∧ b.2.2 = false)

def ExclP (h : Held) : Prop := h.Pairwise Compat

theorem compat_symm {a b : Nat × Nat × Bool} (h : Compat a b) : Compat b a :=
  fun e => (h e.symm).symm

/-- a symmetric relation that holds pairwise holds of any two different members, in either order. -/
theorem pairwise_forall_ne {α : Type} {R : α → α → Prop} (hs : ∀ {a b}, R a b → R b a) {l : List α}
    (h : l.Pairwise R) : ∀ a ∈ l, ∀ b ∈ l, a ≠ b → R a b := fun _ ha _ hb =>
  -- core's lemma wants the relation on the diagonal and pairwise in both orders: `a ≠ b → R a b`
  -- holds on the diagonal for no reason, and the flipped order is `R`'s symmetry
  (h.imp (S := fun a b => a ≠ b → R a b) fun r _ => r).forall_of_forall_of_flip (fun _ _ e => absurd rfl e)
    (h.imp (S := fun a b => b ≠ a → R b a) fun r _ => hs r) ha hb

/-- `sync.RWMutex` grants a lock exactly when the new holding is compatible with every present one. -/
theorem canAcq_iff (h : Held) (t l : Nat) (w : Bool) :
    canAcq h l w = true ↔ ∀ b ∈ h, Compat (t, l, w) b := by
  unfold canAcq Compat
  cases w
  · simp only [Bool.false_eq_true, if_false, List.all_eq_true, Bool.not_eq_true', Bool.and_eq_false_iff,
      beq_eq_false_iff_ne, ne_eq, true_and, eq_comm (a := l), ← Decidable.imp_iff_not_or]
  · simp only [if_true, List.all_eq_true, bne_iff_ne, ne_eq, Bool.true_eq_false, false_and, imp_false,
      eq_comm (a := l)]

theorem exclP_step (h : Held) (e : Ev) (h' : Held) (hx : ExclP h) (hs : stepL h e = some h') :
    ExclP h' := by
  unfold stepL at hs
  split at hs
  · split at hs
    · cases hs; exact List.pairwise_cons.mpr ⟨(canAcq_iff ..).mp ‹_›, hx⟩
    · cases hs
  · split at hs
    · cases hs; exact hx.sublist List.eraseP_sublist
    · cases hs
  · cases hs; exact hx

theorem exclP_run (es : List Ev) : ∀ (h h' : Held), ExclP h → runL h es = some h' → ExclP h' := by
  induction es with
  | nil => intro h h' hx hr; cases hr; exact hx
  | cons e r ih =>
    intro h h' hx hr
    unfold runL at hr
    split at hr
    · exact ih _ h' (exclP_step h e _ hx ‹_›) hr
    · cases hr

/-- what the invariant gives: next to a writer's holding there is no other thread's on that lock. -/
theorem ExclP.writer_alone {h : Held} (hx : ExclP h) {t1 t2 l : Nat} {w2 : Bool} (hne : t1 ≠ t2)
    (h1 : (t1, l, true) ∈ h) (h2 : (t2, l, w2) ∈ h) : False :=
  Bool.noConfusion
    (pairwise_forall_ne compat_symm hx _ h1 _ h2 (fun e => hne (congrArg Prod.fst e)) rfl).1

/-- **C12 (lock discipline ⇒ no two conflicting accesses are ever co-enabled)**:
    along every trace that respects the semantics of `sync.RWMutex`, for every
    lock `l` and any two different threads, if one holds `l` in write mode the
    other holds `l` in no mode. Hence if every write to a field is made holding
    its guard in write mode and every read holding it in some mode (what the table
    check below establishes for the guarded fields), a write is never concurrent
    with another access of that field. -/
theorem C12_writer_excludes_all (es : List Ev) (h : Held) (hr : runL [] es = some h)
    (t1 t2 l : Nat) (w2 : Bool) (hne : t1 ≠ t2)
    (h1 : (t1, l, true) ∈ h) (h2 : (t2, l, w2) ∈ h) : False :=
  (exclP_run es [] h .nil hr).writer_alone hne h1 h2

end Am.Lockset

namespace Am.C12
open Am.Lockset

/-- **C12 (the regenerated lock table obeys the guard expectations)**: every
    access to a guarded field of `Machine` / `Subscriptions` found in /repo's
    current source holds the field's lock in the required mode, or is a
    constructor, or is one of the listed, justified exceptions; atomics and
    channels are synchronised by type; no field is without a decision. -/
theorem C12_lock_table_ok :
    Am.Gen.lockRows.all (rowOK guards ctors exceptions) = true := by decide +kernel

/-- no stale expectations: every listed exception still exists in the table. -/
theorem C12_exceptions_live :
    exceptions.all (fun e => Am.Gen.lockRows.any (fun r => r.field == e.1 && r.func == e.2.1 && r.write == e.2.2)) = true := by
  decide +kernel

end Am.C12
