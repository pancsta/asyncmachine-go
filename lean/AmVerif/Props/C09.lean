/-
  C09 — the RPC mirror converges. Property theorems (with their invariant).
-/
import AmVerif.Model.RpcConv
namespace Am.Conv

/-- the invariant: the mirror is a genuine snapshot not ahead of the source, at or
    past the hello snapshot, and — when no full sync is outstanding and the copy is
    not corrupted — at or past the target of every message that has been delivered;
    an answer on its way is at or past every delivered target unless a further sync
    has been asked for; what the server believes the client has is the hello
    snapshot or the target of some message of this connection. -/
structure Inv (s : St) : Prop where
  mirror_le : s.mirror ≤ s.src
  push_le : s.lastPush ≤ s.src
  hello_le : s.hello ≤ s.mirror
  targets : ∀ m ∈ s.inflight ++ s.delivered, m.target ≤ s.src
  based : ∀ m ∈ s.inflight ++ s.delivered, m.base ≤ m.target
  past : s.needSync = false → s.syncVal = none → s.drifted = false →
    ∀ m ∈ s.delivered, m.target ≤ s.mirror
  answer : ∀ v, s.syncVal = some v → v ≤ s.src ∧ s.hello ≤ v ∧
    (s.needSync = false → s.moved = false → ∀ m ∈ s.delivered, m.target ≤ v)
  link : s.lastPush = s.hello ∨ ∃ m ∈ s.inflight ++ s.delivered, m.target = s.lastPush

/-- a connection that has just been made: everybody is at snapshot `n`, nothing is on its way. -/
theorem inv_connected (n : Nat) (mv : Bool) :
    Inv { src := n, lastPush := n, mirror := n, hello := n, moved := mv } :=
  ⟨Nat.le_refl _, Nat.le_refl _, Nat.le_refl _, fun _ h => absurd h List.not_mem_nil,
    fun _ h => absurd h List.not_mem_nil, fun _ _ _ _ h => absurd h List.not_mem_nil, nofun, .inl rfl⟩

theorem inv_init : Inv {} := inv_connected 0 false

theorem mem_consume {l d : List Msg} {i : Nat} {m : Msg} (hm : l[i]? = some m) (x : Msg) :
    x ∈ l.eraseIdx i ++ m :: d ↔ x ∈ l ++ d := by
  have : x ∈ l ↔ x = m ∨ x ∈ l.eraseIdx i := by
    refine ⟨fun hx => ?_, fun h => h.elim (· ▸ List.mem_of_getElem? hm) List.mem_of_mem_eraseIdx⟩
    obtain ⟨j, hj⟩ := List.mem_iff_getElem?.mp hx
    by_cases e : j = i
    · exact .inl (Option.some.inj ((e ▸ hj).symm.trans hm))
    · exact .inr (List.mem_eraseIdx_iff_getElem?.mpr ⟨j, e, hj⟩)
  simp only [List.mem_append, List.mem_cons, this, or_assoc, or_left_comm]

/-! Half of the steps are made of three moves of the client; each move keeps the invariant. -/

/-- A full sync is asked for; an answer on its way may be dropped at the same time. While a sync
    is asked for nothing is claimed of the delivered messages. -/
theorem Inv.ask {s : St} (h : Inv s) (sv : Option Nat) (hsv : ∀ v, sv = some v → s.syncVal = some v) :
    Inv { s with needSync := true, syncVal := sv } :=
  { h with
    past := nofun
    answer := fun v hv => ⟨(h.answer v (hsv v hv)).1, (h.answer v (hsv v hv)).2.1, nofun⟩ }

/-- The `i`-th in-flight message passes to the delivered ones, in a state whose claims about the
    delivered messages are void or hold of this one too. The server's clauses see the two lists
    only through `inflight ++ delivered`. -/
theorem Inv.consume {s : St} {i : Nat} {m : Msg} (h : Inv s) (hm : s.inflight[i]? = some m)
    (hp : s.needSync = false → s.moved = true ∧ m.target ≤ s.mirror) :
    Inv { s with inflight := s.inflight.eraseIdx i, delivered := m :: s.delivered } := by
  have mem := mem_consume (d := s.delivered) hm
  exact { h with
    targets := fun x hx => h.targets x ((mem x).mp hx)
    based := fun x hx => h.based x ((mem x).mp hx)
    past := fun hn hs hd x hx => by
      rcases List.mem_cons.mp hx with rfl | hx
      · exact (hp hn).2
      · exact h.past hn hs hd x hx
    answer := fun v hv =>
      ⟨(h.answer v hv).1, (h.answer v hv).2.1, fun hn hmv => by rw [(hp hn).1] at hmv; cases hmv⟩
    link := h.link.imp_right fun ⟨x, hx, e⟩ => ⟨x, (mem x).mpr hx, e⟩ }

/-- The client applies the in-flight diff `m`: the mirror moves from its base up to its target. -/
theorem Inv.advance {s : St} {m : Msg} (h : Inv s) (hm : m ∈ s.inflight) (hb : s.mirror = m.base) :
    Inv { s with mirror := m.target, moved := true } := by
  have hle : s.mirror ≤ m.target := hb ▸ h.based m (List.mem_append_left _ hm)
  exact { h with
    mirror_le := h.targets m (List.mem_append_left _ hm)
    hello_le := Nat.le_trans h.hello_le hle
    past := fun hn hs hd x hx => Nat.le_trans (h.past hn hs hd x hx) hle
    answer := fun v hv => ⟨(h.answer v hv).1, (h.answer v hv).2.1, fun _ => nofun⟩ }

theorem inv_step (s : St) (st : Step) (h : Inv s) : Inv (step policyAll s st) := by
  cases st with
  | change =>
    exact { h with
      mirror_le := Nat.le_succ_of_le h.mirror_le
      push_le := Nat.le_succ_of_le h.push_le
      targets := fun m hm => Nat.le_succ_of_le (h.targets m hm)
      answer := fun v hv => ⟨Nat.le_succ_of_le (h.answer v hv).1, (h.answer v hv).2⟩ }
  | produce k =>
    simp only [step]
    split
    · exact h
    · -- the new message joins the in-flight ones and becomes what the server believes
      have mem : ∀ {P : Msg → Prop}, P ⟨k, s.lastPush, s.src⟩ → (∀ x ∈ s.inflight ++ s.delivered, P x) →
          ∀ x ∈ (s.inflight ++ [⟨k, s.lastPush, s.src⟩]) ++ s.delivered, P x := fun h0 hall x hx =>
        List.forall_mem_cons.mpr ⟨h0, hall⟩ x (List.perm_middle.mem_iff.mp (List.append_cons .. ▸ hx))
      exact { h with
        push_le := Nat.le_refl _
        targets := mem (Nat.le_refl _) h.targets
        based := mem h.push_le h.based
        link := .inr ⟨_, List.mem_append_left _ (List.mem_append_right _ (List.mem_singleton_self _)), rfl⟩ }
  | deliver i =>
    simp only [step]
    cases hm : s.inflight[i]? with
    | none => exact h
    | some m =>
      simp only [policyAll, if_true]
      split
      · rename_i hb
        exact (h.advance (List.mem_of_getElem? hm) (of_decide_eq_true (Bool.and_eq_true_iff.mp hb).1)).consume hm
          fun _ => ⟨rfl, Nat.le_refl _⟩
      · exact (h.ask _ fun _ => id).consume hm nofun
  | deliverSync i =>
    simp only [step]
    cases hm : s.inflight[i]? with
    | none => exact h
    | some m => exact (h.ask _ fun _ => id).consume hm nofun
  | askSync => exact h.ask _ fun _ => id
  | drift => exact { h with past := fun _ _ => nofun }
  | syncExec =>
    simp only [step]
    split
    · -- the answer is the source's snapshot, which is at or past every target
      exact { h with
        past := fun _ => nofun
        answer := fun v hv => by
          cases hv
          exact ⟨Nat.le_refl _, Nat.le_trans h.hello_le h.mirror_le,
            fun _ _ x hx => h.targets x (List.mem_append_right _ hx)⟩ }
    · exact h
  | syncApply =>
    simp only [step]
    cases hv : s.syncVal with
    | none => exact h
    | some v =>
      simp only [policyAll, Bool.true_and]
      split
      · exact h.ask none nofun
      · -- no diff has been applied since the answer was made: what it claims passes to the mirror
        rename_i hmv
        obtain ⟨hvs, hhv, hpast⟩ := h.answer v hv
        exact { h with
          mirror_le := hvs
          hello_le := hhv
          past := fun hn _ _ => hpast hn (Bool.not_eq_true _ |>.mp hmv)
          answer := nofun }
  | syncDrop =>
    simp only [step]
    cases hv : s.syncVal with
    | none => exact h
    | some v => exact h.ask none nofun
  | reconnect => exact inv_connected s.src s.moved

theorem inv_run (l : List Step) : ∀ s, Inv s → Inv (run policyAll s l) := fun _ h =>
  List.foldlRecOn l _ h fun s hs st _ => inv_step s st hs

/-- what the invariant gives at rest: the server's last diff, or the hello, is where both ends are. -/
theorem Inv.mirror_eq {s : St} (h : Inv s) (hq : Quiescent s) : s.mirror = s.src := by
  obtain ⟨hi, hp, hn, hs, hd⟩ := hq
  refine Nat.le_antisymm h.mirror_le (hp ▸ ?_)
  rcases h.link with hl | ⟨m, hm, hmt⟩
  · exact hl ▸ h.hello_le
  · exact hmt ▸ h.past hn hs hd m (by simpa only [hi, List.nil_append] using hm)

/-- **C09 (the mirror converges)**: for every history of source changes, every mix of pushes and mutation
    replies, every delivery order, injected clock drifts and every sequence of
    reconnects — with a full sync after every diff that does not apply, and a sync
    answer that a diff has overtaken dropped and asked again — whenever nothing is
    in flight any more, no sync is outstanding and the server has told what it
    knows, the client mirrors exactly the source's snapshot. -/
theorem C09_mirror_converges (l : List Step) (hq : Quiescent (run policyAll {} l)) :
    (run policyAll {} l).mirror = (run policyAll {} l).src :=
  (inv_run l {} inv_init).mirror_eq hq

/-- **C09 (a detected drift is followed by a resynchronisation)**: a diff reaching a
    client whose copy is corrupted is rejected and a full sync is asked for. -/
theorem C09_drift_detected (s : St) (i : Nat) (m : Msg) (hd : s.drifted = true)
    (hm : s.inflight[i]? = some m) : (step policyAll s (.deliver i)).needSync = true := by
  simp [step, hm, hd, policyAll]

/-- **C09 (a mutation's effect is visible when the call returns)**: the reply is
    processed inside the client's call; when it applies, the mirror is the snapshot
    the reply describes when the call returns. -/
theorem C09_reply_effect_visible (s : St) (i : Nat) (m : Msg)
    (hm : s.inflight[i]? = some m) (hb : s.mirror = m.base) (hd : s.drifted = false) :
    (step policyAll s (.deliver i)).mirror = m.target := by
  simp [step, hm, hb, hd]

/-- a schedule in which no diff is applied while a full sync is asked for or outstanding:
    every `deliver` step finds `needSync = false` and `syncVal = none` (what the client
    guarantees for the syncs its update handlers start; a refused diff is a `deliverSync`). -/
def RefusesWhilePending : St → List Step → Prop
  | _, [] => True
  | s, st :: r =>
    (match st with
      | .deliver _ => s.needSync = false ∧ s.syncVal = none
      | _ => True) ∧ RefusesWhilePending (step policyAll s st) r

/-- the bookkeeping invariant of such schedules: an answer on its way has not been overtaken. -/
theorem fresh_step (s : St) (st : Step)
    (hd : match st with
      | .deliver _ => s.needSync = false ∧ s.syncVal = none
      | _ => True)
    (h : s.syncVal.isSome → s.moved = false) :
    (step policyAll s st).syncVal.isSome → (step policyAll s st).moved = false := by
  cases st with
  | change | drift | askSync => exact h
  | reconnect => nofun
  | produce k | deliverSync i => simp only [step]; split <;> exact h
  | deliver i =>
    -- the only step that sets `moved`; it leaves `syncVal` as it is, and the schedule says that is `none`
    have : (step policyAll s (.deliver i)).syncVal = none := by
      simp only [step]
      repeat' split
      all_goals exact hd.2
    exact fun e => by rw [this] at e; cases e
  | syncExec =>
    simp only [step]
    split
    · exact fun _ => rfl
    · exact h
  | syncApply =>
    simp only [step]
    split
    · split <;> nofun
    · exact h
  | syncDrop =>
    simp only [step]
    split
    · nofun
    · exact h

theorem fresh_run (pre post : List Step) : ∀ s, (s.syncVal.isSome → s.moved = false) →
    RefusesWhilePending s (pre ++ post) →
    (run policyAll s pre).syncVal.isSome → (run policyAll s pre).moved = false := by
  induction pre with
  | nil => exact fun s hf _ => hf
  | cons st r ih => exact fun s hf hr => ih _ (fresh_step s st hr.1 hf) hr.2

/-- **C09 (no answer is ever overtaken when diffs are refused while a sync is pending)**:
    in every such schedule the generation check never has to drop an answer — at every
    `syncApply` the answer is applied. -/
theorem C09_no_overtaking_when_pending_refused (l : List Step) :
    ∀ s, (s.syncVal.isSome → s.moved = false) → RefusesWhilePending s l →
      ∀ pre post, l = pre ++ .syncApply :: post → ∀ v, (run policyAll s pre).syncVal = some v →
        (step policyAll (run policyAll s pre) .syncApply).mirror = v := by
  intro s hf hr pre post h v hv
  have hm := fresh_run pre _ s hf (h ▸ hr) (by simp [hv])
  generalize run policyAll s pre = t at hv hm
  simp [step, hv, hm, policyAll]

/-- **falling back to `Sync` alone is not enough**: the answer carries the snapshot
    of the moment the server executed it; a diff produced afterwards and applied
    before the answer is overwritten by the late answer — with nothing left in
    flight. Hence the generation check of `policyAll`. -/
theorem C09_sync_answer_overtaken_false :
    ∃ l : List Step, Quiescent (run policyNaive {} l) ∧
      (run policyNaive {} l).mirror ≠ (run policyNaive {} l).src :=
  ⟨[.change, .askSync, .syncExec, .syncApply,       -- the copy is at 1, the server believes 0
    .produce .push, .deliver 0,                     -- ⟨0,1⟩ rejected: a sync is asked for
    .syncExec,                                      -- answered with snapshot 1 …
    .change, .produce .push, .deliver 0,            -- … ⟨1,2⟩ overtakes the answer and applies
    .syncApply],                                    -- the late answer: back to 1
   by unfold Quiescent; decide, by decide⟩

/-- **C09 is false of the pinned client**, whose `RemoteUpdate` ignored a push that
    does not apply: a reply computed first but delivered after the following push
    leaves the mirror one snapshot behind for good (repaired, see known_findings). -/
theorem C09_pinned_policy_false :
    ∃ l : List Step, Quiescent (run policyPinned {} l) ∧
      (run policyPinned {} l).mirror ≠ (run policyPinned {} l).src :=
  ⟨[.change, .produce .reply, .change, .produce .push, .deliver 1, .deliver 0],
   by unfold Quiescent; decide, by decide⟩

/-- non-vacuity: the same schedule converges with the fallback. -/
example : Quiescent (run policyAll {} [.change, .produce .reply, .change, .produce .push, .deliver 1,
      .syncExec, .syncApply, .deliver 0, .syncExec, .syncApply]) ∧
    (run policyAll {} [.change, .produce .reply, .change, .produce .push, .deliver 1,
      .syncExec, .syncApply, .deliver 0, .syncExec, .syncApply]).mirror = 2 := by
  unfold Quiescent; decide

/-- non-vacuity: the window of the property, with the diffs refused while the sync is pending. -/
example : RefusesWhilePending {} [.change, .produce .reply, .change, .produce .push, .deliver 1,
      .deliverSync 0, .syncExec, .syncApply] ∧
    (run policyAll {} [.change, .produce .reply, .change, .produce .push, .deliver 1,
      .deliverSync 0, .syncExec, .syncApply]).mirror = 2 := by
  refine ⟨?_, by decide⟩
  simp [RefusesWhilePending, step]

end Am.Conv
