/-
  Operation histories over the sequential machine model (`Op`, `runOps`), and the one induction
  that lifts an invariant of single steps to them (`runOps_inv`); its first use: (active, clock)
  change by `apply` and `recover` only along every history (`chg_runOps`), hence C01's invariant
  (`inv_runOps`) and every property of resolved targets (`runOps_active_inv`).
-/
import AmVerif.Lemmas.Chain
namespace Am

/-- everything a single goroutine can do to the machine between transitions. -/
inductive Op
  | mutate (r : MutReq)            -- Add / Remove / Set (with or without args)
  | check (k : MutKind) (st : S)   -- CanAdd / CanRemove
  | toggle (st : S)
  | addErr
  | setBackoff (b : Bool)
  | setLimit (n : Nat)
  | bind (k : Nat)                 -- number of handler bindings
deriving Repr

def applyOp (orc : Oracle) (fuel : Nat) (m : Mach) : Op → Mach
  | .mutate r => (mutate orc fuel m r).1
  | .check k st => (check orc fuel m k st).1
  | .toggle st => (toggle orc fuel m st).1
  | .addErr => (addErr orc fuel m).1
  | .setBackoff b => { m with backoff := b }
  | .setLimit n => { m with limit := n }
  | .bind k => { m with nbind := k, hasHandlers := m.hasHandlers || decide (k > 0) }

def runOps (orc : Oracle) (fuel : Nat) (m : Mach) (ops : List Op) : Mach :=
  ops.foldl (applyOp orc fuel) m

/-- the oracle never panics and never times out. -/
def FaultFree (orc : Oracle) : Prop := OrcF False orc

/-! ### lifting an invariant to histories

Between transitions the operations only enqueue (`queueMutation`), prepend a tick-less check,
end the drain with `qEnd` and touch bookkeeping no property looks at; the drain loop runs
`runOne` on the queue head of a machine whose caller has not crashed. An invariant that survives
these five survives every history. (`hone` offers the queue as `mu :: rest` — the tick promise needs
it — and a caller that has not crashed — the log properties need that; `Chg` needs neither.) -/

section
variable {P : Mach → Prop} (orc : Oracle)
  (hsil : ∀ {m m'}, Silent m m' → P m → P m')
  (hend : ∀ m, P m → P (m.emit .qEnd))
  (henq : ∀ m r, P m → P (queueMutation m r).1)
  (hpre : ∀ m mu, mu.qtick = 0 → P m → P (prepend m mu))
  (hone : ∀ m mu rest, m.queue = mu :: rest → m.crashed = false → P m → P (runOne orc m mu rest).1)
include hone in
theorem drain_inv : ∀ (fuel : Nat) (m : Mach) (rets : List Res), m.crashed = false → P m →
    P (drain orc fuel m rets).1 := by
  intro fuel
  induction fuel with
  | zero => intro m rets _ h; exact h
  | succ n ih =>
    intro m rets hc h
    simp only [drain]
    split
    · exact h
    · rename_i mu rest hq
      have h1 := hone m mu rest hq hc h
      split
      · exact h1
      · rename_i hc1; exact ih _ _ (by simpa using hc1) h1

include hsil hend hone in
theorem processQueue_inv (fuel : Nat) (m : Mach) (hc : m.crashed = false) (h : P m) :
    P (processQueue orc fuel m).1 := by
  unfold processQueue
  split
  · exact h
  · have h1 := drain_inv orc hone fuel m [] hc h
    generalize drain orc fuel m [] = d at h1 ⊢
    obtain ⟨m1, rets⟩ := d
    simp only
    split
    · exact h1
    · exact hend _ (hsil (m' := { m1 with inTx := false, subs := _ }) (by constructor <;> rfl) h1)

include hsil hend henq hone in
theorem mutate_inv (fuel : Nat) (m : Mach) (r : MutReq) (h : P m) : P (mutate orc fuel m r).1 := by
  unfold mutate
  split
  · exact h
  · rename_i hcd
    split
    · exact h
    · split
      · exact h
      · have h1 := henq m r h
        have hc : (queueMutation m r).1.crashed = false :=
          (queueMutation_crashed m r).trans (by simpa using hcd : m.crashed = false ∧ _).1
        split
        · rename_i m1 heq; rw [heq] at h1; exact h1
        · rename_i m1 tick heq
          rw [heq] at h1 hc
          have h2 := processQueue_inv orc hsil hend hone fuel m1 hc h1
          generalize processQueue orc fuel m1 = pq at h2 ⊢
          obtain ⟨m2, res⟩ := pq
          simp only
          split <;> exact h2

include hsil hend henq hpre hone in
theorem applyOp_inv (fuel : Nat) (m : Mach) (op : Op) (h : P m) : P (applyOp orc fuel m op) := by
  cases op with
  | mutate r => exact mutate_inv orc hsil hend henq hone fuel m r h
  | check k st =>
    show P (check orc fuel m k st).1
    unfold check
    split
    · exact h
    · rename_i hcd
      split
      · exact h
      · exact processQueue_inv orc hsil hend hone fuel _ (by simpa using hcd : m.crashed = false ∧ _).1
          (hpre m _ rfl h)
  | toggle st =>
    show P (toggle orc fuel m st).1
    unfold toggle
    split <;> exact mutate_inv orc hsil hend henq hone fuel m _ h
  | addErr =>
    show P (addErr orc fuel m).1
    unfold addErr
    split
    · exact h
    · exact mutate_inv orc hsil hend henq hone fuel m _ h
  | setBackoff b => exact hsil (by constructor <;> rfl) h
  | setLimit n => exact hsil (by constructor <;> rfl) h
  | bind k => exact hsil (by constructor <;> rfl) h

include hsil hend henq hpre hone in
theorem runOps_inv (fuel : Nat) : ∀ (ops : List Op) (m : Mach), P m → P (runOps orc fuel m ops) := by
  intro ops
  induction ops with
  | nil => intro m h; exact h
  | cons op rest ih => intro m h; exact ih _ (applyOp_inv orc hsil hend henq hpre hone fuel m op h)

end

theorem chg_runOps {F : Prop} (orc : Oracle) (hF : OrcF F orc) (fuel : Nat) (ops : List Op) (m : Mach) :
    Chg F m (runOps orc fuel m ops) :=
  runOps_inv (P := Chg F m) orc (hsil := fun s h => h.trans s.quiet.toChg)
    (hend := fun _ h => h.trans (.quiet rfl rfl rfl rfl))
    (henq := fun _ r h => h.trans (quiet_queueMutation _ r).toChg)
    (hpre := fun _ _ _ h => h.trans (.quiet rfl rfl rfl rfl))
    (hone := fun m' mu rest _ _ h => h.trans (chg_runOne orc hF m' mu rest)) fuel ops m (.refl m)

theorem good_runOps (orc : Oracle) (fuel : Nat) (ops : List Op) (m : Mach) :
    Good m (runOps orc fuel m ops) := (chg_runOps orc (orcF_true orc) fuel ops m).good

theorem runOps_sch (orc : Oracle) (fuel : Nat) (ops : List Op) (m : Mach) :
    (runOps orc fuel m ops).sch = m.sch := (chg_runOps orc (orcF_true orc) fuel ops m).sch

theorem runOps_active_inv {F : Prop} {P : Schema → S → Prop}
    (hP : ∀ (c : RCtx) (toSet : S), P c.sch (targetStates c toSet))
    (hsub : F → ∀ (sch : Schema) {a b : S}, b.Sublist a → P sch a → P sch b)
    (sch : Schema) (alpha : S) (orc : Oracle) (hF : OrcF F orc) (fuel : Nat) (ops : List Op)
    (h0 : P sch []) : P sch (runOps orc fuel (Mach.init sch alpha) ops).active := by
  have h := (chg_runOps orc hF fuel ops (Mach.init sch alpha)).active_inv hP hsub h0
  rwa [runOps_sch] at h

theorem inv_init (sch : Schema) (alpha : S) : Inv (Mach.init sch alpha) := by
  refine ⟨by simp [Mach.init], ?_⟩
  intro j hj
  simp only [Mach.init, List.length_replicate] at hj
  simp [Mach.init, List.getD_eq_getElem?_getD, hj]

theorem inv_runOps (sch : Schema) (alpha : S) (orc : Oracle) (fuel : Nat) (ops : List Op) :
    Inv (runOps orc fuel (Mach.init sch alpha) ops) ∧
      (runOps orc fuel (Mach.init sch alpha) ops).clock.length = sch.n :=
  have g := good_runOps orc fuel ops (Mach.init sch alpha)
  ⟨g.inv (inv_init sch alpha), g.len.trans (by simp [Mach.init])⟩

end Am
