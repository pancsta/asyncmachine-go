/-
  C04 — one queue, one transition at a time, none lost: the flag protocol of `processQueue` /
  `queueMutation` for any number of callers and every interleaving (model `Am.QP`). The
  sequential side — queued, not nested; in tick order — is in Props/C04Lift.
-/
import AmVerif.Model.QueueProto
import AmVerif.Lemmas.Sched
namespace Am.QP

def isHolder (p : Pc) : Bool := p == .loop || p == .release

/-- the mutual-exclusion invariant: the flag is set iff exactly one goroutine
    is between a successful CAS and the release, and never more than one is. -/
def MutexInv (s : St) : Prop := holders s = if s.flag then 1 else 0

theorem mutex_init (n : Nat) : MutexInv (init n) :=
  length_filter_eq_zero fun p hp => by cases List.eq_of_mem_replicate hp; rfl

/-- goroutine `i` moves from `q` to `p`: the flag has to follow what that does to the number of holders. -/
theorem MutexInv.move {s : St} {i : Nat} {q : Pc} (h : MutexInv s) (hq : s.pcs[i]? = some q) (p : Pc)
    (fl : Bool) (qu : Nat)
    (hm : (if fl then 1 else 0) + (if isHolder q then 1 else 0)
      = (if s.flag then 1 else 0) + (if isHolder p then 1 else 0)) :
    MutexInv { flag := fl, queue := qu, pcs := setPc s.pcs i p } := by
  -- `holders` is the number of `pcs` that satisfy `isHolder`, by unfolding both
  have : holders { flag := fl, queue := qu, pcs := setPc s.pcs i p } + _ = holders s + _ :=
    length_filter_set isHolder hq p
  unfold MutexInv at h
  show holders _ = if fl then 1 else 0
  omega

theorem MutexInv.flag_of_holder {s : St} (h : MutexInv s) {p : Pc} (hp : p ∈ s.pcs) (hh : isHolder p = true) :
    s.flag = true := by
  have : 0 < holders s := List.length_pos_of_mem (List.mem_filter.mpr ⟨hp, hh⟩)
  cases hf : s.flag
  · rw [MutexInv, hf] at h; exact absurd h (Nat.ne_of_gt this)
  · rfl

theorem MutexInv.holder_of_flag {s : St} (h : MutexInv s) (hf : s.flag = true) :
    ∃ p ∈ s.pcs, isHolder p = true := by
  rw [MutexInv, hf] at h
  obtain ⟨p, hp⟩ := List.exists_mem_of_length_pos (Nat.lt_of_lt_of_eq Nat.one_pos h.symm)
  exact ⟨p, List.mem_filter.mp hp⟩

theorem mutex_step (rc : Bool) (s s' : St) (i : Nat) (h : MutexInv s)
    (hs : step rc s i = some s') : MutexInv s' := by
  unfold step at hs
  split at hs
  · cases hs
  · rename_i pc hp
    cases pc <;> simp only at hs
    case idle => cases hs; exact h.move hp _ _ _ rfl
    case pre | recheck => split at hs <;> cases hs <;> exact h.move hp _ _ _ rfl
    case done => cases hs
    case cas =>
      split at hs <;> cases hs
      · exact h.move hp _ _ _ rfl
      · rename_i hf
        exact h.move hp _ _ _ (by rw [Bool.not_eq_true _ |>.mp hf]; rfl)
    case loop =>
      split at hs <;> cases hs
      · exact h
      · exact h.move hp _ _ _ rfl
    case release =>
      cases hs
      have hf := h.flag_of_holder (List.mem_of_getElem? hp) rfl
      cases rc <;> exact h.move hp _ _ _ (by rw [hf]; rfl)

theorem mutex_run (rc : Bool) (s : St) (sched : List Nat) (h : MutexInv s) :
    MutexInv (run rc s sched) :=
  foldl_getD_inv (fun s i s' h => mutex_step rc s s' i h) sched h

/-- what the invariant gives: never two holders, and the flag tells whether there is one. -/
theorem MutexInv.one {s : St} (h : MutexInv s) : holders s ≤ 1 ∧ (holders s = 1 ↔ s.flag = true) := by
  unfold MutexInv at h
  cases hf : s.flag <;> simp [hf] at h ⊢ <;> omega

/-- **C04 (one at a time)**: for every number of caller goroutines, every
    schedule, and both protocol variants, at most one goroutine is ever inside
    the drain loop (between its successful CAS and its release), and the flag
    tells exactly whether one is. Since the only place a transition is created
    and its handlers are run is that loop, no two transitions of one machine
    overlap. -/
theorem C04_one_at_a_time (rc : Bool) (n : Nat) (sched : List Nat) :
    holders (run rc (init n) sched) ≤ 1 ∧
    (holders (run rc (init n) sched) = 1 ↔ (run rc (init n) sched).flag = true) :=
  (mutex_run rc (init n) sched (mutex_init n)).one

/-- no-strand invariant: a non-empty queue always has a goroutine that is
    certain to test the queue length again. -/
def WatchInv (s : St) : Prop := s.queue > 0 → ∃ p ∈ s.pcs, watching s p = true

/-- while the flag is taken, whoever holds it watches the queue, and keeps doing so when some
    other goroutine (one that is not a holder) moves. -/
theorem MutexInv.holder_watches {s : St} (h : MutexInv s) (hf : s.flag = true) {i : Nat} {q : Pc}
    (hq : s.pcs[i]? = some q) (hnq : isHolder q = false) (p : Pc) (s' : St) :
    ∃ x ∈ setPc s.pcs i p, watching s' x = true := by
  obtain ⟨x, hx, hh⟩ := h.holder_of_flag hf
  refine ⟨x, mem_set_of_ne hq hx (fun e => by rw [e, hnq] at hh; cases hh) p, ?_⟩
  simp only [isHolder, Bool.or_eq_true, beq_iff_eq] at hh
  rcases hh with e | e <;> simp [watching, e]

theorem watch_step (s s' : St) (i : Nat) (hm : MutexInv s)
    (hs : step true s i = some s') : WatchInv s' := by
  unfold step at hs
  split at hs
  · cases hs
  · rename_i pc hp
    have new := List.mem_set (List.getElem?_eq_some_iff.mp hp).1
    cases pc <;> simp only at hs
    case idle => cases hs; exact fun _ => ⟨.pre, new _, rfl⟩
    case pre =>
      split at hs <;> cases hs
      · cases hf : s.flag
        · exact fun _ => ⟨.cas, new _, by simp [watching]⟩
        · exact fun _ => hm.holder_watches hf hp rfl _ _
      · exact fun hq => absurd hq ‹_›
    case cas =>
      split at hs <;> cases hs
      · exact fun _ => hm.holder_watches ‹_› hp rfl _ _
      · exact fun _ => ⟨.loop, new _, rfl⟩
    case loop =>
      split at hs <;> cases hs
      · exact fun _ => ⟨.loop, List.mem_of_getElem? hp, rfl⟩
      · exact fun _ => ⟨.release, new _, rfl⟩
    case release => cases hs; exact fun _ => ⟨.recheck, new _, rfl⟩
    case recheck =>
      split at hs <;> cases hs
      · exact fun _ => ⟨.pre, new _, rfl⟩
      · exact fun hq => absurd hq ‹_›
    case done => cases hs

theorem watch_init (n : Nat) : WatchInv (init n) := nofun

theorem watch_run (s : St) (sched : List Nat) (hm : MutexInv s) (h : WatchInv s) :
    WatchInv (run true s sched) :=
  (foldl_getD_inv (P := fun s => MutexInv s ∧ WatchInv s)
    (fun s i s' h hs => ⟨mutex_step true s s' i h.1 hs, watch_step s s' i h.1 hs⟩) sched ⟨hm, h⟩).2

/-- what the invariant gives at rest: a goroutine that has returned watches nothing. -/
theorem WatchInv.queue_zero {s : St} (h : WatchInv s) (hq : quiescent s = true) : s.queue = 0 :=
  Nat.eq_zero_of_not_pos fun h0 => by
    obtain ⟨p, hp, hw⟩ := h h0
    cases beq_iff_eq.mp (List.all_eq_true.mp hq p hp)
    simp [watching] at hw

/-- **C04 (none lost, protocol with the re-check after the release)**: for every
    number of callers and every schedule, when all callers have returned the
    queue is empty — an idle machine never sits on a non-empty queue. -/
theorem C04_no_strand_recheck (n : Nat) (sched : List Nat)
    (hq : quiescent (run true (init n) sched) = true) :
    (run true (init n) sched).queue = 0 :=
  (watch_run (init n) sched (mutex_init n) (watch_init n)).queue_zero hq

/-- **C04 (none lost) is false of the protocol without the re-check** — the
    pinned code before the repair: two callers, the second appends after the
    first one's last length check and loses the CAS before the release. -/
theorem C04_no_strand_full_false :
    ∃ sched, quiescent (run false (init 2) sched) = true ∧ (run false (init 2) sched).queue = 1 :=
  ⟨[0, 0, 0, 0, 0, 1, 1, 1, 0], by decide⟩

/-- non-vacuity: the quiescence hypothesis is reachable with work done. -/
example : quiescent (run true (init 2) [0,0,0,0,0,1,1,1,0,0,0,0,0,0,0,0]) = true ∧
    (run true (init 2) [0,0,0,0,0,1,1,1,0,0,0,0,0,0,0,0]).queue = 0 := by decide

end Am.QP
