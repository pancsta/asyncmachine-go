/-
  C17 — history is a faithful, bounded log; queries and Export/Import mean what
  they say. Property theorems (with their local lemmas).
-/
import AmVerif.Model.History
import AmVerif.Props.Common
namespace Am.Hist

/-- the unbounded log: one record per matching transition, each built against the
    previous one. -/
def recsFrom (c : Cfg) : List Rec → List Tx → List Rec
  | acc, [] => acc
  | acc, tx :: r =>
    if txMatches c tx then recsFrom c (acc ++ [mkRec c acc.getLast? tx]) r else recsFrom c acc r

def allRecs (c : Cfg) (txs : List Tx) : List Rec := recsFrom c [] txs

def lastN (n : Nat) (l : List Rec) : List Rec := l.drop (l.length - n)

/-- the store's rotation, on a store that already is a `lastN`. -/
theorem lastN_append_one (n : Nat) (l : List Rec) (r : Rec) (hn : 0 < n) :
    lastN n (l ++ [r]) =
      (if (lastN n l).length ≥ n then (lastN n l).drop 1 else lastN n l) ++ [r] := by
  simp only [lastN, List.length_append, List.length_singleton, List.length_drop, List.drop_drop]
  by_cases h : n ≤ l.length
  · rw [Nat.sub_sub_self h, if_pos (Nat.le_refl n), Nat.sub_add_comm h,
      List.drop_append_of_le_length (by omega)]
  · rw [if_neg (by omega), Nat.sub_eq_zero_of_le (by omega), Nat.sub_eq_zero_of_le (by omega)]; rfl

theorem lastN_getLast (n : Nat) (l : List Rec) (hn : 0 < n) : (lastN n l).getLast? = l.getLast? := by
  rw [lastN, List.getLast?_drop, ite_eq_right_iff]
  intro h
  rw [List.eq_nil_of_length_eq_zero (by omega : l.length = 0)]; rfl

theorem track_lastN (c : Cfg) (hm : 0 < c.maxRecords) (txs : List Tx) :
    ∀ acc : List Rec,
      txs.foldl (track c) (lastN c.maxRecords acc) = lastN c.maxRecords (recsFrom c acc txs) := by
  induction txs with
  | nil => intro acc; rfl
  | cons tx r ih =>
    intro acc
    simp only [List.foldl_cons, recsFrom, track]
    split
    · rw [← ih, lastN_getLast _ _ hm, lastN_append_one _ _ _ hm]
    · exact ih acc

/-- **C17 (faithful log)**: the in-memory store is exactly the last `MaxRecords`
    records of the unbounded log, which has one record per matching transition in
    execution order — nothing is dropped except by rotation, nothing duplicated. -/
theorem C17_log_is_last_records (c : Cfg) (txs : List Tx) (hm : 0 < c.maxRecords) :
    trackAll c txs = lastN c.maxRecords (allRecs c txs) := by
  simpa [trackAll, allRecs, lastN] using track_lastN c hm txs []

/-- **C17 (bounded)**: for every configuration with `MaxRecords ≥ 1` and every
    history of transitions the in-memory log never holds more than `MaxRecords`
    records. -/
theorem C17_bounded (c : Cfg) (txs : List Tx) (hm : 0 < c.maxRecords) :
    (trackAll c txs).length ≤ c.maxRecords := by
  rw [C17_log_is_last_records c txs hm, lastN, List.length_drop]
  omega

theorem recsFrom_tracked (c : Cfg) (txs : List Tx) : ∀ acc : List Rec,
    (recsFrom c acc txs).map (·.tracked) =
      acc.map (·.tracked) ++ (txs.filter (txMatches c)).map (fun tx => tfilter tx.after c.tracked) := by
  induction txs with
  | nil => intro acc; simp [recsFrom]
  | cons tx r ih =>
    intro acc
    simp only [recsFrom, List.filter_cons]
    split
    · rw [ih]; simp [mkRec]
    · exact ih acc

/-- **C17 (one record per matching transition, tracked times = machine time
    after)**: the unbounded log lists, in execution order, exactly the matching
    transitions, each with the machine's time after it restricted to the tracked
    states. -/
theorem C17_records_are_matching_transitions (c : Cfg) (txs : List Tx) :
    (allRecs c txs).map (·.tracked) =
      (txs.filter (txMatches c)).map (fun tx => tfilter tx.after c.tracked) := by
  simpa [allRecs] using recsFrom_tracked c txs []

/-- the records of a newest-first list that satisfy the query, each judged with
    the record that precedes it in time. -/
def satList (q : Query) : List Rec → List Rec
  | [] => []
  | r :: rest => (if sat q r rest.head? then [r] else []) ++ satList q rest

/-- the loop appends the satisfying records to `acc` and stops when `acc` has `limit` of them. -/
theorem findLoop_eq (q : Query) (limit : Nat) (l : List Rec) :
    ∀ acc : List Rec, (limit = 0 ∨ acc.length < limit) →
      findLoop q limit l acc =
        if limit = 0 then acc ++ satList q l else (acc ++ satList q l).take limit := by
  induction l with
  | nil =>
    intro acc ha
    rw [findLoop, satList, List.append_nil]
    split
    · rfl
    · exact (List.take_of_length_le (Nat.le_of_lt (ha.resolve_left ‹_›))).symm
  | cons r rest ih =>
    intro acc ha
    simp only [findLoop, satList, Bool.and_eq_true, decide_eq_true_eq, List.length_append,
      List.length_singleton]
    split
    · rw [← List.append_assoc]
      split
      · -- `acc ++ [r]` has exactly `limit` records
        rw [if_neg (by omega), List.take_left' (by rw [List.length_append, List.length_singleton]; omega)]
      · exact ih _ (by rw [List.length_append, List.length_singleton]; omega)
    · exact ih acc ha

/-- **C17 (FindLatest returns precisely the matching records, newest first)**:
    the result is the newest-first list of the records that satisfy the query
    (state conditions against the record and its predecessor, every range
    condition), cut at `limit` when one is given. -/
theorem C17_find_is_filter (q : Query) (limit : Nat) (db : List Rec) :
    findLatest q limit db =
      if limit = 0 then satList q db.reverse else (satList q db.reverse).take limit :=
  findLoop_eq q limit db.reverse [] (Nat.eq_zero_or_pos limit)

theorem satList_sublist (q : Query) (l : List Rec) : (satList q l).Sublist l := by
  induction l with
  | nil => exact List.Sublist.slnil
  | cons r rest ih =>
    simp only [satList]
    split
    · exact ih.cons_cons r
    · exact ih.cons r

/-- nothing but stored records, in newest-first order. -/
theorem C17_find_sublist (q : Query) (limit : Nat) (db : List Rec) :
    (findLatest q limit db).Sublist db.reverse := by
  rw [C17_find_is_filter]
  split
  · exact satList_sublist q _
  · exact (List.take_sublist _ _).trans (satList_sublist q _)

/-- **C17 (Import ∘ Export)**: a machine rebuilt from an export has the same
    ticks, a machine tick one higher, and — whenever the exported machine's active
    list agreed with tick parity, which C01 proves for every history — the same
    active states. -/
theorem C17_import_export (m : MState)
    (hp : ∀ i, i ∈ m.active ↔ (i < m.clock.length ∧ isActiveTick (m.clock.getD i 0) = true)) :
    (importS (exportS m)).clock = m.clock ∧
    (importS (exportS m)).machTick = m.machTick + 1 ∧
    ∀ i, i ∈ (importS (exportS m)).active ↔ i ∈ m.active := by
  refine ⟨rfl, rfl, fun i => ?_⟩
  simp only [importS, exportS, List.mem_filter, List.mem_range]
  exact (hp i).symm

/-- the hypothesis of `C17_import_export` holds after every history (from C01's invariant `Am.Inv`,
    which speaks of the `sch.n` states only: hence the filter). -/
theorem C17_import_export_histories (sch : Schema) (alpha : S) (orc : Oracle) (fuel : Nat)
    (ops : List Op) :
    let m := runOps orc fuel (Mach.init sch alpha) ops
    let ms : MState := { clock := m.clock, active := m.active.filter (· < sch.n), machTick := 0 }
    ∀ i, i ∈ (importS (exportS ms)).active ↔ i ∈ ms.active := by
  intro m ms i
  obtain ⟨h, (hl : m.clock.length = sch.n)⟩ := inv_runOps sch alpha orc fuel ops
  apply (C17_import_export ms _).2.2
  intro j
  simp only [ms, List.mem_filter, decide_eq_true_eq, hl, isActiveTick, beq_iff_eq]
  rw [and_comm]
  exact and_congr_right fun hlt => h.parity j (hl ▸ hlt)

/-- non-vacuity: rotation, an allow-list, a query that rejects. -/
example :
    let c : Cfg := { tracked := [0, 1], maxRecords := 2, called := [0] }
    let txs : List Tx := [
      ⟨true, false, [0], [0, 0], [1, 0], 0, 1, 0⟩, ⟨true, false, [1], [1, 0], [1, 1], 0, 2, 0⟩,
      ⟨true, false, [0], [1, 1], [2, 1], 0, 3, 1⟩, ⟨true, false, [0, 1], [2, 1], [3, 2], 0, 4, 0⟩]
    (trackAll c txs).length = 2 ∧ (allRecs c txs).length = 3 ∧
    (findLatest { active := [0] } 0 (trackAll c txs)).length = 1 := by decide

end Am.Hist
