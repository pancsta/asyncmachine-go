/-
  C08 — handler faults are contained. Property theorems only.
-/
import AmVerif.Props.C01
namespace Am

/-- C08 (a fault during negotiation leaves active states and ticks untouched):
    whatever any Exit/Enter/self/state-state/AnyEnter handler of any binding does
    — return false, panic, overrun its timeout, issue mutations — the
    negotiation phase never changes the active states or a tick. -/
theorem C08_negotiation_fault_noop (orc : Oracle) (m : Mach) (t : Tx) (r : Bool) :
    (negotiate orc m t r).1.active = m.active ∧ (negotiate orc m t r).1.clock = m.clock :=
  ⟨(negotiate_keeps orc m t r).chg.active, (negotiate_keeps orc m t r).chg.clock⟩

/-- C08 (tick parity still matches activity after any sequence of faults):
    C01's parity theorem holds for *every* oracle, faulting ones included. -/
theorem C08_parity_after_faults (sch : Schema) (alpha : S) (orc : Oracle) (fuel : Nat)
    (ops : List Op) :
    let m := runOps orc fuel (Mach.init sch alpha) ops
    ∀ j, j < sch.n → (j ∈ m.active ↔ m.tick j % 2 = 1) :=
  (C01_parity_all_histories sch alpha orc fuel ops).2

/-- C08 (what a fault in a final handler can do): the only writes to the active
    states in a faulting run are the resolver's target (`apply`) and
    `recoverFinalPhase` called with a record whose latest handler was an
    Enter-side final handler or had no target state — in which case the recovery
    only *removes* states (no duplicates, no resurrection). -/
theorem C08_recovery_only_removes (m : Mach) (t : Tx) (hok : FinalOk t) :
    ∀ x ∈ (recoverFinalPhase m t).active, x ∈ m.active :=
  fun _ hx => (recoverWalk_sublist hok _ _).subset hx

/-- C08 full statement of the rollback clause, recorded as *false of the code*:
    "a fault in a final handler rolls back exactly the (de)activations whose
    final handlers had not completed". A panic in an `End` handler undoes
    nothing, because `latestHandlerToState` is empty for `End` handlers. -/
def C08_final_rollback_full : Prop :=
  ∀ (m : Mach) (t : Tx) (s : Nat), s ∈ t.exits → t.latestIsFinal = true →
    t.latestIsEnter = false → s ∈ (recoverFinalPhase m t).active

theorem C08_final_rollback_full_false : ¬ C08_final_rollback_full := by
  intro h
  -- Set [C] from {A}: A exits; its `AEnd` handler (latestTo = none) panics
  let sch : Schema := { states := [{ multi := true }, {}, {}], exc := 0 }
  let m : Mach := { sch := sch, topo := [], active := [2], clock := [0, 2, 1] }
  let t : Tx := { mu := { kind := .set, called := [2] }, before := [1], timeBefore := [0, 1, 0],
                  timeAfter := [0, 2, 1], target := [2], exits := [1], enters := [2],
                  latestTo := .none, latestIsEnter := false, latestIsFinal := true }
  have := h m t 1 (by decide) rfl rfl
  revert this
  decide

end Am
