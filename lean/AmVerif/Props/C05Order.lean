/-
  C05 — "for every transition the bound handlers run in the documented sequence: Exit handlers,
  then Enter handlers, then self and state-state handlers, with the global AnyEnter inside this
  negotiation phase, then End handlers, State handlers and last the global AnyState", over whole
  histories. The model's log records every handler call between the tracer callbacks; an acceptor
  reads the log and rejects a handler call outside a transition, a negotiation handler after
  `TransitionFinals`, a final handler before it, and any step back in the sequence
  Exit < Enter < self/state-state < AnyEnter < End/State < AnyState. Every history, for every
  handler oracle, is accepted (unless the caller goroutine crashed).

  The acceptor is `Ph2` / `run2`; `Ph` / `runPh` of Props/C14Shape, which reads the tracer
  callbacks alone, is its image with the ranks forgotten.
-/
import AmVerif.Props.Common
namespace Am

/-- the four life-cycle callbacks. -/
def Ev.isTx : Ev → Bool
  | .tInit _ _ _ _ _ _ => true
  | .tStart _ => true
  | .tFinals _ _ => true
  | .tEnd _ _ _ _ _ => true
  | _ => false

/-- the acceptor's state. -/
inductive Ph2
  | idle | inited
  | neg (r : Nat)   -- between Start and Finals/End, last negotiation handler had rank r
  | fin (r : Nat)   -- after Finals
deriving DecidableEq, Repr

def Ph2.step : Ph2 → Ev → Option Ph2
  -- ranks are `hrank`s: 3 = AnyEnter, the last of the negotiation; 4 = End / State, the first final one
  | .idle, .tInit _ _ _ _ _ _ => some .inited
  | .inited, .tStart _ => some (.neg 0)
  | .neg _, .tFinals _ _ => some (.fin 4)
  | .neg _, .tEnd _ _ _ _ _ => some .idle
  | .fin _, .tEnd _ _ _ _ _ => some .idle
  | .neg r, .h _ n _ => if r ≤ hrank n ∧ hrank n ≤ 3 then some (.neg (hrank n)) else none
  | .fin r, .h _ n _ => if r ≤ hrank n ∧ 4 ≤ hrank n then some (.fin (hrank n)) else none
  | _, .h _ _ _ => none
  | p, e => if e.isTx then none else some p

def run2 : Ph2 → List Ev → Option Ph2
  | p, [] => some p
  | p, e :: r => match p.step e with
    | some q => run2 q r
    | none => none

theorem run2_append (p : Ph2) (a b : List Ev) :
    run2 p (a ++ b) = (run2 p a).bind (fun q => run2 q b) := by
  induction a generalizing p with
  | nil => simp [run2]
  | cons e r ih =>
    simp only [List.cons_append, run2]
    cases p.step e with
    | none => rfl
    | some q => exact ih q

/-- the log grew by events that all satisfy `P`. -/
def EX (P : Ev → Prop) (m m' : Mach) : Prop := ∃ ext, m'.log = m.log ++ ext ∧ ∀ e ∈ ext, P e

theorem EX.of_log {P : Ev → Prop} {m m' : Mach} (h : m'.log = m.log) : EX P m m' := ⟨[], by simp [h], by simp⟩
theorem EX.mono {P Q : Ev → Prop} (hpq : ∀ e, P e → Q e) {m m' : Mach} (h : EX P m m') : EX Q m m' := by
  obtain ⟨ext, hl, hn⟩ := h
  exact ⟨ext, hl, fun e he => hpq e (hn e he)⟩

theorem ex_negStep {P : Ev → Prop} (f : Mach → Tx → Mach × Tx × Bool) (hf : ∀ m t, EX P m (f m t).1)
    (p : Mach × Tx × Bool) : EX P p.1 (negStep f p).1 := by
  rcases negStep_cases f p with h | ⟨h, _⟩ | h <;> rw [h]
  · exact hf _ _
  · exact .of_log rfl
  · exact .of_log rfl

theorem step_plain (p : Ph2) (e : Ev) (h : e.isPlain = true) : p.step e = some p := by
  -- the five plain events fall through to the last clause of `Ph2.step` in every state
  cases e <;> first | (cases p <;> rfl) | cases h

/-- the log grew by a word that takes the acceptor from `p` to `q`. -/
def LX2 (p q : Ph2) (m m' : Mach) : Prop := ∃ ext, m'.log = m.log ++ ext ∧ run2 p ext = some q

theorem LX2.trans {p q r : Ph2} {a b c : Mach} (h1 : LX2 p q a b) (h2 : LX2 q r b c) : LX2 p r a c := by
  obtain ⟨e1, l1, r1⟩ := h1
  obtain ⟨e2, l2, r2⟩ := h2
  refine ⟨e1 ++ e2, by rw [l2, l1, List.append_assoc], ?_⟩
  rw [run2_append, r1]; exact r2

theorem lx2_emit {p q : Ph2} (m : Mach) (e : Ev) (h : p.step e = some q) : LX2 p q m (m.emit e) :=
  ⟨[e], rfl, by simp [run2, h]⟩

theorem lx2_of_log (p : Ph2) {m m' : Mach} (h : m'.log = m.log) : LX2 p p m m' := ⟨[], by simp [h], rfl⟩

theorem lx2_queueMutation (p : Ph2) (m : Mach) (r : MutReq) : LX2 p p m (queueMutation m r).1 := by
  rcases queueMutation_eq m r with h | ⟨mu, -, h⟩ <;> rw [h]
  · exact lx2_of_log p rfl
  · exact lx2_emit { m with queue := _, pending := _ } _ (step_plain p _ rfl)

theorem lx2_prepend (p : Ph2) (m : Mach) (mu : Mut) : LX2 p p m (prepend m mu) :=
  lx2_emit { m with queue := mu :: m.queue } _ (step_plain p _ rfl)

/-- a phase of the acceptor (`.neg`, `.fin`) that takes handler calls of rank `k`. -/
def TakesRank (c : Nat → Ph2) (k : Nat) : Prop :=
  ∀ r b n a, r ≤ k → hrank n = k → (c r).step (.h b n a) = some (c k)

theorem takesRank_neg {k : Nat} (hk : k ≤ 3) : TakesRank .neg k :=
  fun r _ n _ hr hn => by simp only [Ph2.step, hn]; rw [if_pos ⟨hr, hk⟩]

theorem takesRank_fin {k : Nat} (hk : 4 ≤ k) : TakesRank .fin k :=
  fun r _ n _ hr hn => by simp only [Ph2.step, hn]; rw [if_pos ⟨hr, hk⟩]

/-- a stretch of the model that calls handlers of rank `k` only keeps the acceptor in its phase:
    from a rank `r ≤ k` it ends at a rank `≤ k`. -/
theorem lx2_rank {c : Nat → Ph2} {k : Nat} (hc : TakesRank c k) {G : Prop} {m m' : Mach} {t t' : Tx}
    (h : Path G (RankIs k) m t m' t') : ∀ r, r ≤ k → ∃ r', r' ≤ k ∧ LX2 (c r) (c r') m m' := by
  induction h with
  | trans _ _ ih1 ih2 =>
    intro r hr
    obtain ⟨r1, h1, x1⟩ := ih1 r hr
    obtain ⟨r2, h2, x2⟩ := ih2 r1 h1
    exact ⟨r2, h2, x1.trans x2⟩
  | silent s => exact fun r hr => ⟨r, hr, lx2_of_log _ s.log⟩
  | emit e he =>
    intro r hr
    rcases he with hp | ⟨b, n, a, rfl, hn⟩
    · exact ⟨r, hr, lx2_emit _ e (step_plain _ e hp)⟩
    · exact ⟨k, Nat.le_refl k, lx2_emit _ _ (hc r b n a hr hn)⟩
  | enq q => exact fun r hr => ⟨r, hr, lx2_queueMutation _ _ q⟩
  | pre mu _ => exact fun r hr => ⟨r, hr, lx2_prepend _ _ mu⟩
  | _ => exact fun r hr => ⟨r, hr, lx2_of_log _ rfl⟩

/-- a stretch of the negotiation phase: from any rank `≤ lo` to some rank `≤ hi`. -/
def Seg (lo hi : Nat) (m m' : Mach) : Prop :=
  ∀ r, r ≤ lo → ∃ r', r' ≤ hi ∧ LX2 (.neg r) (.neg r') m m'

theorem Seg.trans {a b c d : Nat} (hbc : b ≤ c) {x y z : Mach} (h1 : Seg a b x y) (h2 : Seg c d y z) :
    Seg a d x z := fun r hr => by
  obtain ⟨r', hr', g1⟩ := h1 r hr
  obtain ⟨r'', hr'', g2⟩ := h2 r' (Nat.le_trans hr' hbc)
  exact ⟨r'', hr'', g1.trans g2⟩

theorem seg_negotiate (orc : Oracle) (m : Mach) (t : Tx) (r : Bool) : Seg 0 3 m (negotiate orc m t r).1 := by
  obtain ⟨_, _, _, _, _, _, p0, p1, p2, p3⟩ := negotiate_stages orc m t r
  have seg : ∀ {k m t m' t'}, k ≤ 3 → Path False (RankIs k) m t m' t' → Seg k k m m' :=
    fun hk p => lx2_rank (takesRank_neg hk) p
  exact ((((seg (by decide) p0).trans (by decide) (seg (by decide) p1)).trans (by decide)
    (seg (by decide) p2)).trans (by decide) (seg (by decide) p3))

theorem lx2_finish (p : Ph2) (hp : ∀ a b c d e, p.step (.tEnd a b c d e) = some .idle) (m : Mach) (t : Tx)
    (b : Bool) : LX2 p .idle m (finish m t b).1 := by
  rw [finish_fst]; exact lx2_emit _ _ (hp _ _ _ _ _)

theorem lx2_applyPhase (orc : Oracle) (m1 : Mach) (t2 : Tx) (r : Nat) :
    LX2 (.neg r) .idle m1 (applyPhase orc m1 t2).1 := by
  have h1 : LX2 (.neg r) (.fin 4) m1 (applyTarget m1 t2).1 :=
    lx2_emit { applyActive m1 t2.mu.called t2.target with subs := _ } _ rfl
  obtain ⟨m4, t4, m6, t6, b, p4, p6, e⟩ := applyPhase_path orc (orcF_true orc) m1 t2
  obtain ⟨r4, hr4, h4⟩ := lx2_rank (takesRank_fin (by decide)) p4 4 (Nat.le_refl _)
  obtain ⟨r6, _, h6⟩ := lx2_rank (takesRank_fin (by decide)) p6 r4 (by omega)
  rw [e]
  exact ((h1.trans h4).trans h6).trans (lx2_finish (.fin r6) (fun _ _ _ _ _ => rfl) _ _ _)

theorem lx2_emitEvents (orc : Oracle) (m0 : Mach) (t0 : Tx) :
    (emitEvents orc m0 t0).1.crashed = true ∨ LX2 .inited .idle m0 (emitEvents orc m0 t0).1 := by
  obtain ⟨r, _, h1⟩ := seg_negotiate orc (m0.emit (.tStart t0.accepted)) t0 t0.accepted 0 (Nat.le_refl _)
  have q0 : LX2 .inited (.neg r) m0 (negotiate orc (m0.emit (.tStart t0.accepted)) t0 t0.accepted).1 :=
    (lx2_emit m0 _ rfl).trans h1
  rcases emitEvents_cases orc m0 t0 with ⟨hc, h⟩ | ⟨t, b, h⟩ | ⟨_, _, h⟩ <;> rw [h]
  · exact Or.inl hc
  · exact Or.inr (q0.trans (lx2_finish (.neg r) (fun _ _ _ _ _ => rfl) _ _ _))
  · exact Or.inr (q0.trans (lx2_applyPhase orc _ _ r))

theorem lx2_runOne (orc : Oracle) (m : Mach) (mu : Mut) (rest : List Mut) :
    (runOne orc m mu rest).1.crashed = true ∨ LX2 .idle .idle m (runOne orc m mu rest).1 := by
  have h1 : LX2 .idle .inited m (newTx (shiftQueue m mu rest) mu).1 := by
    have hs : (shiftQueue m mu rest).log = m.log := by unfold shiftQueue; split <;> rfl
    exact (lx2_of_log .idle hs).trans (lx2_emit { shiftQueue m mu rest with inTx := true } _ rfl)
  have s := runOne_silent orc m mu rest
  rcases lx2_emitEvents orc (newTx (shiftQueue m mu rest) mu).1 (newTx (shiftQueue m mu rest) mu).2 with hc | hx
  · exact Or.inl (s.crashed.trans hc)
  · exact Or.inr ((h1.trans hx).trans (lx2_of_log .idle s.log))

/-- the caller has crashed, or the acceptor takes the whole log and ends between transitions. -/
def Ordered (m : Mach) : Prop := m.crashed = true ∨ run2 .idle m.log = some .idle

theorem ordered_of_lx2 {m m' : Mach} (h : run2 .idle m.log = some .idle) (x : LX2 .idle .idle m m') :
    run2 .idle m'.log = some .idle := by
  obtain ⟨ext, hl, hr⟩ := x
  rw [hl, run2_append, h]; exact hr

/-- between transitions: the caller's flag stays, the log grows by an accepted word. -/
theorem Ordered.step {m m' : Mach} (hc : m'.crashed = m.crashed) (x : LX2 .idle .idle m m')
    (h : Ordered m) : Ordered m' :=
  h.imp (hc.trans ·) (ordered_of_lx2 · x)

/-- **C05 (the documented sequence — all histories)**: for every schema, every handler oracle and
    every finite history of operations, every handler call lies inside a transition; negotiation
    handlers (Exit, Enter, self / state-state, AnyEnter) run between `TransitionStart` and
    `TransitionFinals`, final handlers (End / State, AnyState) after it; and within a transition
    the calls never step back in the order Exit < Enter < self / state-state < AnyEnter <
    End / State < AnyState — unless the caller goroutine crashed. -/
theorem C05_handler_sequence_all_histories (sch : Schema) (alpha : S) (orc : Oracle) (fuel : Nat)
    (ops : List Op) : Ordered (runOps orc fuel (Mach.init sch alpha) ops) :=
  runOps_inv orc (hsil := fun s => Ordered.step s.crashed (lx2_of_log _ s.log))
    (hend := fun m => Ordered.step rfl (lx2_emit m _ rfl))
    (henq := fun m r => Ordered.step (queueMutation_crashed m r) (lx2_queueMutation _ m r))
    (hpre := fun m mu _ => Ordered.step rfl (lx2_prepend _ m mu))
    (hone := fun m mu rest _ hc h => (lx2_runOne orc m mu rest).imp id
      (ordered_of_lx2 (h.resolve_left (by simp [hc])))) fuel ops _ (Or.inr rfl)

/-- non-vacuity: a full transition is accepted ... -/
example : run2 .idle [.tInit default [] [] [] [] true, .tStart true, .h 0 (.exit 2) [], .h 0 (.enter 1) [],
    .h 1 (.enter 1) [], .h 0 (.trans 1 1) [], .h 0 .anyEnter [], .tFinals [] [], .h 0 (.end_ 2) [],
    .h 0 (.state 1) [], .h 0 .anyState [], .tEnd [] [] true [] 0] = some .idle := by decide

/-- ... an Enter handler after a self handler, a final handler before `TransitionFinals` and a
    handler call outside a transition are not. -/
example : run2 .idle [.tInit default [] [] [] [] true, .tStart true, .h 0 (.trans 1 1) [], .h 0 (.enter 1) []] = none ∧
    run2 .idle [.tInit default [] [] [] [] true, .tStart true, .h 0 (.state 1) []] = none ∧
    run2 .idle [.h 0 (.enter 1) []] = none := by decide

end Am
