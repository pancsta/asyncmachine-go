/-
  C16 — the debugger shows each transition as it happened and navigates
  consistently. Property theorems (with their local lemmas).
-/
import AmVerif.Model.Dbg
namespace Am.Dbg

/-- `f` is monotone on `[0, n)`: once true it stays true. -/
def Mono (n : Nat) (f : Nat → Bool) : Prop := ∀ i j, i ≤ j → j < n → f i = true → f j = true

theorem firstTrue_char (n : Nat) (f : Nat → Bool) (i : Nat) (hle : i ≤ n)
    (hlow : ∀ k, k < i → f k = false) (hat : i < n → f i = true) : firstTrue n f = i := by
  unfold firstTrue
  by_cases hi : i < n
  · rw [List.find?_range_eq_some.2 ⟨hat hi, List.mem_range.2 hi, fun j hj => by rw [hlow j hj]; rfl⟩]
    rfl
  · rw [List.find?_eq_none.2 (fun x hx => by rw [hlow x (by have := List.mem_range.1 hx; omega)]; decide)]
    exact Nat.le_antisymm (Nat.not_lt.1 hi) hle

theorem bisectLoop_spec (n : Nat) (f : Nat → Bool) (hm : Mono n f) :
    ∀ fuel i j, j - i < fuel → i ≤ j → j ≤ n →
      (∀ k, k < i → f k = false) → (∀ k, j ≤ k → k < n → f k = true) →
      bisectLoop f fuel i j = firstTrue n f := by
  intro fuel
  induction fuel with
  | zero => intro i j h; exact absurd h (Nat.not_lt_zero _)
  | succ fu ih =>
    intro i j hf hij hjn hlow hhigh
    simp only [bisectLoop]
    split
    · have hb : i ≤ (i + j) / 2 ∧ (i + j) / 2 < j := by omega
      generalize (i + j) / 2 = h at hb ⊢
      cases hfh : f h with
      | false =>
        -- monotone and false at `h`: false at and below `h`
        refine ih _ _ (by omega) hb.2 hjn (fun k hk => ?_) hhigh
        cases hfk : f k with
        | false => rfl
        | true =>
          exact nomatch hfh.symm.trans (hm k h (Nat.le_of_lt_succ hk) (Nat.lt_of_lt_of_le hb.2 hjn) hfk)
      | true =>
        exact ih _ _ (by omega) hb.1 (Nat.le_trans (Nat.le_of_lt hb.2) hjn) hlow
          fun k hk hkn => hm h k hk hkn hfh
    · rename_i hge
      obtain rfl : i = j := Nat.le_antisymm hij (Nat.not_lt.1 hge)
      exact (firstTrue_char n f i hjn hlow (hhigh i (Nat.le_refl _))).symm

/-- **C16 (binary search = linear scan)**: on a monotone predicate Go's
    `sort.Search` returns what a linear scan returns. -/
theorem bisect_eq_firstTrue (n : Nat) (f : Nat → Bool) (hm : Mono n f) :
    bisect n f = firstTrue n f :=
  bisectLoop_spec n f hm (n + 1) 0 n (Nat.lt_succ_self n) (Nat.zero_le _) (Nat.le_refl _)
    (fun k hk => absurd hk (Nat.not_lt_zero k)) (fun _ hk hkn => absurd hkn (Nat.not_lt.2 hk))

theorem mono_ge {n : Nat} {key : Nat → Nat} (hs : ∀ i j, i ≤ j → j < n → key i ≤ key j) (q : Nat) :
    Mono n (fun i => decide (key i ≥ q)) := by
  intro i j hij hj hi
  simp only [decide_eq_true_eq] at hi ⊢
  exact Nat.le_trans hi (hs i j hij hj)

/-- queue ticks of the records never decrease. -/
def QSorted (c : Client) : Prop :=
  ∀ i j, i ≤ j → j < c.msgs.length → (c.msgs.getD i default).qtick ≤ (c.msgs.getD j default).qtick

/-- time sums of the parsed records never decrease. -/
def SumSorted (c : Client) : Prop :=
  ∀ i j, i ≤ j → j < c.parsed.length →
    (c.parsed.getD i ⟨0, 0, [], []⟩).timeSum ≤ (c.parsed.getD j ⟨0, 0, [], []⟩).timeSum

/-- **C16 (lookup by queue tick)**: with non-decreasing queue ticks (what a real
    machine produces, C04) `TxAtQueueTick` is the linear scan: the first record whose
    queue tick is at least `q`, else the last record; -1 for an empty stream. -/
theorem C16_txAtQueueTick_linear (c : Client) (q : Nat) (hs : QSorted c) :
    txAtQueueTick c q =
      if c.msgs.length = 0 then -1 else
      let i := firstTrue c.msgs.length (fun i => (c.msgs.getD i default).qtick ≥ q)
      if i = c.msgs.length then ((c.msgs.length - 1 : Nat) : Int) else (i : Int) := by
  simp only [txAtQueueTick, bisect_eq_firstTrue _ _ (mono_ge hs q)]
  by_cases h0 : c.msgs.length = 0
  · simp [h0]
  · simp only [h0, beq_iff_eq, if_false]

/-- **C16 (lookup by machine time)**: with non-decreasing time sums (C01: ticks
    only grow) `TxAtMachTime` returns the first record whose time sum equals `sum`,
    and 0 when there is none. -/
theorem C16_txAtMachTime_linear (c : Client) (sum : Nat) (hs : SumSorted c) :
    txAtMachTime c sum =
      let i := firstTrue c.parsed.length (fun i => (c.parsed.getD i ⟨0, 0, [], []⟩).timeSum ≥ sum)
      if i < c.parsed.length ∧ (c.parsed.getD i ⟨0, 0, [], []⟩).timeSum = sum then i else 0 := by
  simp only [txAtMachTime, bisect_eq_firstTrue _ _ (mono_ge hs sum), Bool.and_eq_true, decide_eq_true_eq,
    beq_iff_eq]

/-- **C16 (lookup by transition id)** is the linear scan by definition: the first
    record carrying the id, -1 when no record does — whatever was looked up before. -/
theorem C16_txIndex_linear (c : Client) (id : Nat) :
    txIndex c id = match c.msgs.findIdx? (fun m => m.id == id) with | some i => (i : Int) | none => -1 :=
  rfl

/-- **C16 (states added / removed)**: for consecutive records, a state is listed
    as removed exactly when it was active before and is not after; every state that
    became active is listed as added, and a listed state is active after or had its
    tick changed (a Multi state re-entered). -/
theorem C16_added_removed (n : Nat) (b a : List Nat) (s : Nat) (hs : s < n) :
    (s ∈ (transitionStates n (some b) a).2 ↔
      (isActiveTick (b.getD s 0) = true ∧ isActiveTick (a.getD s 0) = false)) ∧
    ((isActiveTick (b.getD s 0) = false ∧ isActiveTick (a.getD s 0) = true) →
      s ∈ (transitionStates n (some b) a).1) ∧
    (s ∈ (transitionStates n (some b) a).1 →
      isActiveTick (a.getD s 0) = true ∨ b.getD s 0 ≠ a.getD s 0) := by
  simp only [transitionStates, List.mem_filter, List.mem_range, hs, true_and, Bool.or_eq_true,
    Bool.and_eq_true, Bool.not_eq_true', bne_iff_ne, ne_eq]
  exact ⟨Or.inl, fun h => h.elim (fun h => Or.inl h.2) (fun h => Or.inr h.2)⟩

/-- **C16 (time sum / time diff)**: a parsed record carries the sum of its clocks,
    and — when time did not run backwards — the difference to the previous
    record's sum. -/
theorem C16_sum_diff (n : Nat) (pm : Msg) (pp : Parsed) (m : Msg) (h : csum pm.clocks ≤ csum m.clocks) :
    (parse n (some (pm, pp)) m).timeSum = csum m.clocks ∧
    (parse n (some (pm, pp)) m).timeDiff = csum m.clocks - pp.timeSum := by
  simp only [parse, if_neg (Nat.not_lt.2 h), and_self]

theorem push_msgs (c : Client) (m : Msg) : (c.push m).msgs = c.msgs ++ [m] := rfl
theorem push_errSt (c : Client) (m : Msg) : (c.push m).errSt = c.errSt := rfl
theorem push_exc (c : Client) (m : Msg) : (c.push m).exc = c.exc := rfl

theorem push_lengths (c : Client) (m : Msg) :
    (c.push m).msgs.length = c.msgs.length + 1 ∧ (c.push m).parsed.length = c.parsed.length + 1 :=
  ⟨List.length_append, List.length_append⟩

/-- a record counts as an error when an `Err*` state or Exception is active in it (and the
    time sum did not go back against the record before). -/
def errRec (c : Client) (i : Nat) : Bool :=
  let m := c.msgs.getD i default
  let bad := if i = 0 then false else csum m.clocks < csum (c.msgs.getD (i - 1) default).clocks
  !bad && (c.errSt.any (fun e => isActiveTick (m.clocks.getD e 0)) || isActiveTick (m.clocks.getD c.exc 0))

/-- the linear scan: every error record, newest first. -/
def errorsSpec (c : Client) : List Nat := ((List.range c.msgs.length).filter (errRec c)).reverse

theorem getD_append_left {α : Type} {l l' : List α} {i : Nat} {d : α} (h : i < l.length) :
    (l ++ l').getD i d = l.getD i d := by
  simp [List.getD, List.getElem?_append_left h]

theorem errRec_push_old (c : Client) (m : Msg) (i : Nat) (hi : i < c.msgs.length) :
    errRec (c.push m) i = errRec c i := by
  unfold errRec
  rw [push_msgs, push_errSt, push_exc, getD_append_left hi, getD_append_left (by omega : i - 1 < _)]

theorem push_errors (c : Client) (m : Msg) (hl : c.msgs.length = c.parsed.length) :
    (c.push m).errors =
      if errRec (c.push m) c.msgs.length then c.msgs.length :: c.errors else c.errors := by
  -- `push` finds the record before through `getLast?` of both lists, `errRec` by position
  obtain ⟨n, exc, errSt, msgs, parsed, errors⟩ := c
  rcases List.eq_nil_or_concat msgs with rfl | ⟨ms, pm, rfl⟩
  · obtain rfl : parsed = [] := List.eq_nil_of_length_eq_zero hl.symm
    rfl
  · obtain ⟨ps, pp, rfl⟩ := (List.eq_nil_or_concat parsed).resolve_left
      fun h => by subst h; simp at hl
    simp [Client.push, errRec, List.getD]

/-- the scan over one more record has the shape of `push_errors`. -/
theorem errorsSpec_push (c : Client) (m : Msg) :
    errorsSpec (c.push m) =
      if errRec (c.push m) c.msgs.length then c.msgs.length :: errorsSpec c else errorsSpec c := by
  unfold errorsSpec
  rw [(push_lengths c m).1, List.range_succ, List.filter_append, List.reverse_append,
    List.filter_congr fun i hi => errRec_push_old c m i (List.mem_range.1 hi), List.filter_cons,
    List.filter_nil]
  split <;> rfl

/-- **C16 (error index)**: pushing a record keeps the error index equal to the linear scan
    over all records (newest first), for any set of `Err*` states. -/
theorem C16_errors_step (c : Client) (m : Msg) (hl : c.msgs.length = c.parsed.length)
    (he : c.errors = errorsSpec c) : (c.push m).errors = errorsSpec (c.push m) := by
  rw [push_errors c m hl, errorsSpec_push, he]

/-- **C16 (error index), every stream**: after any sequence of records the error index is
    the linear scan over them. -/
theorem C16_errors_exact (n exc : Nat) (errSt : List Nat) (ms : List Msg) :
    let c := ms.foldl Client.push ({ n := n, exc := exc, errSt := errSt } : Client)
    c.errors = errorsSpec c :=
  (List.foldlRecOn ms Client.push
    (motive := fun c => c.msgs.length = c.parsed.length ∧ c.errors = errorsSpec c) ⟨rfl, rfl⟩
    fun c ⟨hl, he⟩ m _ =>
      ⟨by rw [(push_lengths c m).1, (push_lengths c m).2, hl], C16_errors_step c m hl he⟩).2

/-- non-vacuity: a second `Err*` state alone (no Exception) puts the record into the index. -/
example : (({ n := 3, exc := 0, errSt := [1, 2] } : Client).push
    { id := 1, clocks := [0, 0, 1], qtick := 1 }).errors = [0] := by decide

/-- **C16 (filters)**: the filtered view lists exactly the records that pass the
    filters, in stream order. -/
theorem C16_filtered_exact (c : Client) (f : Filters) (i : Nat) :
    i ∈ filtered c f ↔ i < c.msgs.length ∧ filterTx c f i = true := by
  simp [filtered, List.mem_filter]

/-- with "skip queued" on, no queued record is shown — whatever the other filters. -/
theorem C16_skip_queued (c : Client) (f : Filters) (i : Nat) (hq : f.skipQueued = true)
    (hi : i ∈ filtered c f) : ∃ tx, c.msgs[i]? = some tx ∧ tx.isQueued = false := by
  have hf := ((C16_filtered_exact c f i).1 hi).2
  unfold filterTx at hf
  split at hf
  · rename_i tx _ hm _
    simp only [hq, Bool.true_and, Bool.and_eq_true, Bool.not_eq_true'] at hf
    exact ⟨tx, hm, hf.1.1.1.2⟩  -- the `skipQueued` conjunct of `filterTx`
  · exact nomatch hf

/-- the skip loop walks `pos 0, pos 1, …`, each one step further in its direction, and returns
    the first position that is shown, as long as the walk stays inside the stream. -/
theorem fixLoop_walk (p : Nat → Bool) (len cur : Nat) (back : Bool) :
    ∀ (fuel d : Nat) (pos : Nat → Nat), d < fuel →
      (∀ e, pos (e + 1) = if back then pos e - 1 else pos e + 1) →
      (∀ e ≤ d, 1 ≤ pos e ∧ pos e ≤ len) →
      (∀ e < d, p (pos e - 1) = false) → p (pos d - 1) = true →
      fixCursorLoop (fun i => !p i) len cur back fuel (pos 0) = pos d := by
  intro fuel
  induction fuel with
  | zero => intro d _ h; exact absurd h (Nat.not_lt_zero d)
  | succ fu ih =>
    intro d pos hf hstep hin hsk hd
    have h0 := hin 0 (Nat.zero_le d)
    rw [fixCursorLoop, if_neg (Nat.not_lt.2 h0.1), if_neg (Nat.not_lt.2 h0.2)]
    cases d with
    | zero => rw [hd]; rfl
    | succ d =>
      have := ih d (fun e => pos (e + 1)) (Nat.lt_of_succ_lt_succ hf) (fun e => hstep (e + 1))
        (fun e he => hin (e + 1) (Nat.succ_le_succ he)) (fun e he => hsk (e + 1) (Nat.succ_lt_succ he)) hd
      rw [hsk 0 (Nat.succ_pos d), Bool.not_false, if_pos rfl]
      rw [hstep 0] at this
      cases back <;> exact this

/-- what the cursor loop skips is what the debugger does not show; with no group filter
    active nothing is skipped and the loop returns its start. -/
theorem fixCursor_eq (c : Client) (f : Filters) (cur new : Nat) (back : Bool)
    (h1 : 1 ≤ new) (hl : new ≤ c.msgs.length) :
    fixCursor c f cur new back =
      fixCursorLoop (fun i => !shown c f i) c.msgs.length cur back (c.msgs.length + 2) new := by
  unfold fixCursor shown
  cases f.active with
  | false =>
    simp only [Bool.not_false, if_true, Bool.false_eq_true, if_false]
    rw [fixCursorLoop, if_neg (by omega), if_neg (by omega), if_neg (by simp; omega)]
  | true => rfl

theorem fwd_next (c : Client) (f : Filters) (cur r : Nat) (hcr : cur < r) (hrl : r ≤ c.msgs.length)
    (hrs : shown c f (r - 1) = true) (hbet : ∀ k, cur < k → k < r → shown c f (k - 1) = false) :
    fwd c f cur 1 = r := by
  -- the loop walks `cur + 1, …, cur + d + 1 = r`
  obtain ⟨d, rfl⟩ := Nat.exists_eq_add_of_lt hcr
  have hlen : cur + 1 ≤ c.msgs.length := by omega
  rw [fwd, if_pos hlen, fixCursor_eq _ _ _ _ _ (Nat.le_add_left 1 cur) hlen]
  exact fixLoop_walk (shown c f) _ _ false _ d (cur + · + 1) (by omega) (fun _ => rfl)
    (fun e he => by omega) (fun e he => hbet _ (by omega) (by omega)) hrs

theorem back_prev (c : Client) (f : Filters) (cur r : Nat) (hcur : 1 ≤ cur) (hcr : cur < r)
    (hrl : r ≤ c.msgs.length) (hshown : shown c f (cur - 1) = true)
    (hbet : ∀ k, cur < k → k < r → shown c f (k - 1) = false) : back c f r 1 = cur := by
  -- the loop walks `cur + d, …, cur`, where `r = cur + d + 1`
  obtain ⟨d, rfl⟩ := Nat.exists_eq_add_of_lt hcr
  rw [back, if_pos (Nat.le_add_left 1 _),
    fixCursor_eq c f _ (cur + d + 1 - 1) true (Nat.le_trans hcur (Nat.le_add_right cur d))
      (Nat.le_of_succ_le hrl)]
  exact (fixLoop_walk (shown c f) _ _ true _ d (cur + d - ·) (by omega) (fun _ => rfl)
    (fun e he => by omega) (fun e he => hbet _ (by omega) (by omega))
    ((Nat.add_sub_cancel cur d).symm ▸ hshown)).trans (Nat.add_sub_cancel cur d)

/-- **C16 (forward then back returns)**: with any filters, stepping forward from a
    shown transition to the next shown one and then back lands on the transition
    one started from. ("shown" is the debugger's own notion: the filtered list when
    a filter of the Filters group is active, every record otherwise.) -/
theorem C16_fwd_back_returns (c : Client) (f : Filters) (cur r : Nat)
    (hcur : 1 ≤ cur) (hshown : shown c f (cur - 1) = true)
    (hr : cur < r ∧ r ≤ c.msgs.length ∧ shown c f (r - 1) = true ∧
      ∀ k, cur < k → k < r → shown c f (k - 1) = false) :
    fwd c f cur 1 = r ∧ back c f r 1 = cur :=
  ⟨fwd_next c f cur r hr.1 hr.2.1 hr.2.2.1 hr.2.2.2,
   back_prev c f cur r hcur hr.1 hr.2.1 hshown hr.2.2.2⟩

/-- **C16 (the view honours every filter that is on)**: whatever is in the view
    passes the filters — in particular no check transition with "skip checks" on. -/
theorem C16_view_sound (c : Client) (f : Filters) (i : Nat) (hi : i ∈ view c f) (ha : f.active = true) :
    filterTx c f i = true := by
  simp only [view, ha, if_true] at hi
  exact ((C16_filtered_exact c f i).mp hi).2

/-- with the pinned Filters group (no `FilterChecks` in it, repaired since) "skip
    checks" alone was not honoured: the view still showed check transitions. -/
theorem C16_skip_checks_alone_pinned_false :
    ∃ (c : Client) (f : Filters) (i : Nat), f.skipChecks = true ∧ i ∈ viewPinned c f ∧
      (∃ tx, c.msgs[i]? = some tx ∧ tx.isCheck = true) :=
  ⟨(({ n := 1, exc := 0 } : Client).push { id := 1, clocks := [0], qtick := 1, isCheck := true }),
   { skipChecks := true }, 0, rfl, by decide, by decide⟩

end Am.Dbg
