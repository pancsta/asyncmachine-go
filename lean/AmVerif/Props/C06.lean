/-
  C06 / C13 — waiting. The whole subscription manager
  is tied to the code by the correspondence run (channel ids, closed sets and
  canceled contexts after every operation); the theorems below pin the counter
  logic of When/WhenNot bindings and what Dispose releases.
-/
import AmVerif.Model.Machine
namespace Am

/-- how many recorded states currently satisfy the binding (active for `When`,
    inactive for `WhenNot`). -/
def WhenB.count (b : WhenB) : Nat :=
  (b.states.filter (fun p => if b.neg then !p.2 else p.2)).length

/-- the binding's bookkeeping is right: `Matched` counts the satisfying states. -/
def WhenB.OK (b : WhenB) : Prop := b.matched = (b.count : Int)

/-- on a map with distinct keys, `mset` of a present key replaces that one entry,
    and `find?` by key returns it. -/
theorem mset_split {α : Type} {m : List (Nat × α)} {k : Nat} {old : α} (v : α)
    (hnd : (m.map (·.1)).Nodup) (h : (k, old) ∈ m) :
    ∃ l₁ l₂, m = l₁ ++ (k, old) :: l₂ ∧ mset m k v = l₁ ++ (k, v) :: l₂ ∧
      m.find? (·.1 == k) = some (k, old) := by
  obtain ⟨l₁, l₂, rfl⟩ := List.append_of_mem h
  rw [List.map_append, List.map_cons, List.nodup_append] at hnd
  have k1 : ∀ p ∈ l₁, (p.1 == k) = false := fun p hp =>
    beq_eq_false_iff_ne.2 (hnd.2.2 _ (List.mem_map_of_mem hp) k (.head _))
  have k2 : ∀ p ∈ l₂, (p.1 == k) = false := fun p hp =>
    beq_eq_false_iff_ne.2 fun e => (List.nodup_cons.1 hnd.2.1).1 (e ▸ List.mem_map_of_mem (f := (·.1)) hp)
  have keep : ∀ l : List (Nat × α), (∀ p ∈ l, (p.1 == k) = false) →
      l.map (fun p => if p.1 == k then (k, v) else p) = l := fun l hl => by
    rw [List.map_congr_left (g := id) fun p hp => by simp [hl p hp], List.map_id]
  refine ⟨l₁, l₂, rfl, ?_, ?_⟩
  · simp only [mset, List.any_append, List.any_cons, beq_self_eq_true, Bool.true_or, Bool.or_true,
      if_true, List.map_append, List.map_cons, keep l₁ k1, keep l₂ k2]
  · rw [List.find?_append, List.find?_eq_none.2 fun p hp => by simp [k1 p hp]]
    simp

/-- overwriting the value at a present key moves one unit of every count from the old value's class
    to the new one's (the `mset` form of `length_filter_set`, again without subtraction). -/
theorem mset_filter_length_update (m : List (Nat × Bool)) (st : Nat) (v : Bool) (f : Bool → Bool)
    (hnd : (m.map (·.1)).Nodup) (hmem : ∃ old, (st, old) ∈ m) :
    ((mset m st v).filter (fun p => f p.2)).length + (if f (((m.find? (·.1 == st)).map (·.2)).getD false) then 1 else 0)
      = (m.filter (fun p => f p.2)).length + (if f v then 1 else 0) := by
  obtain ⟨old, hold⟩ := hmem
  obtain ⟨l₁, l₂, rfl, hs, hf⟩ := mset_split v hnd hold
  rw [hs, hf]
  simp only [← List.countP_eq_length_filter, List.countP_append, List.countP_cons, Option.map_some,
    Option.getD_some]
  omega

/-- `touch` moves `Matched` by what the new activity satisfies minus what the
    recorded one did (written without subtraction). -/
theorem WhenB.touch_matched (b : WhenB) (v : Bool) (st : Nat) :
    (b.touch v st).matched +
        ((if (if b.neg then !(((b.states.find? (·.1 == st)).map (·.2)).getD false)
              else ((b.states.find? (·.1 == st)).map (·.2)).getD false) then 1 else 0 : Nat) : Int)
      = b.matched + ((if (if b.neg then !v else v) then 1 else 0 : Nat) : Int) := by
  simp only [WhenB.touch]
  generalize ((b.states.find? (·.1 == st)).map (·.2)).getD false = cur
  cases b.neg <;> cases v <;> cases cur <;> simp <;> omega

/-- C06 (binding bookkeeping): applying one changed state to a When/WhenNot
    binding keeps `Matched` equal to the number of satisfying states — also when
    the state was already recorded with that activity (the subscription landed
    between `setActiveStates` and `processSubscriptions`, or a Multi state was
    re-activated). -/
theorem C06_binding_invariant (b : WhenB) (v : Bool) (st : Nat)
    (hnd : (b.states.map (·.1)).Nodup) (hmem : ∃ old, (st, old) ∈ b.states) (hok : b.OK) :
    (b.touch v st).OK := by
  -- `Matched` and the count move by the same amount: linear arithmetic over both equations
  have h1 := b.touch_matched v st
  have h2 := mset_filter_length_update b.states st v (fun x => if b.neg then !x else x) hnd hmem
  have hs : (b.touch v st).states = mset b.states st v := rfl
  have hn : (b.touch v st).neg = b.neg := rfl
  simp only [WhenB.OK, WhenB.count, hs, hn] at hok h2 ⊢
  omega

/-- C06 (completion test): with right bookkeeping and `Total` = number of
    recorded states, `Matched ≥ Total` holds exactly when every recorded state
    satisfies the binding — the channel is released neither early nor late. -/
theorem C06_binding_complete_iff (b : WhenB) (hok : b.OK) (ht : b.total = b.states.length) :
    (¬ b.matched < (b.total : Int)) ↔ ∀ p ∈ b.states, (if b.neg then !p.2 else p.2) = true := by
  rw [hok, ht, ← List.length_filter_eq_length_iff, WhenB.count]
  have := List.length_filter_le (fun p : Nat × Bool => if b.neg then !p.2 else p.2) b.states
  omega

/-- **C06 / C20 (a WhenArgs channel belongs to its caller)**: the channel a caller
    is handed is that of a binding for exactly the caller's state, arguments and
    context — never the channel of a binding made for another context or for a
    larger set of arguments (the reuse rule before fix 71ec5b8, which let a
    caller be woken by the end of somebody else's context, or never). -/
theorem C06_args_channel_is_the_callers (s : Subs) (state : Nat) (needsX : Bool) (ctx : Option Nat)
    (s' : Subs) (id : Nat) (h : Subs.subArgs s state needsX ctx = (s', some id)) :
    ∃ b ∈ s'.args, b.id = id ∧ b.state = state ∧ b.needsX = needsX ∧ b.ctx = ctx := by
  unfold Subs.subArgs at h
  split at h
  · cases h
  · split at h <;> cases h
    · rename_i b hb
      have hp := List.find?_some hb
      simp only [Bool.and_eq_true, beq_iff_eq] at hp
      exact ⟨b, List.mem_of_find?_eq_some hb, rfl, hp.1.1, hp.1.2, hp.2⟩
    · exact ⟨{ id := s.next, state := state, needsX := needsX, ctx := ctx }, by simp, rfl, rfl, rfl, rfl⟩

/-- C13 (Dispose releases every waiter): after `dispose` every channel still
    registered in an index and every state context is released. -/
theorem C13_dispose_releases_all (m : Mach) :
    (∀ e ∈ m.subs.whenIdx, ∀ id ∈ e.2, id ∈ (disposeMach m).subs.closed) ∧
    (∀ e ∈ m.subs.timeIdx, ∀ id ∈ e.2, id ∈ (disposeMach m).subs.closed) ∧
    (∀ b ∈ m.subs.args, b.id ∈ (disposeMach m).subs.closed) ∧
    (∀ b ∈ m.subs.queries, b.id ∈ (disposeMach m).subs.closed) ∧
    (∀ id ∈ m.subs.queueEnds, id ∈ (disposeMach m).subs.closed) ∧
    (∀ b ∈ m.subs.queue, b.1 ∈ (disposeMach m).subs.closed) ∧
    (∀ e ∈ m.subs.stateCtx, e.2 ∈ (disposeMach m).subs.canceled) := by
  -- `closed` is `s.closed ++ whenIdx ++ timeIdx ++ args ++ queries ++ queueEnds ++ queue`
  have inl {x : Nat} {a b : List Nat} (h : x ∈ a) : x ∈ a ++ b := List.mem_append_left b h
  have inr {x : Nat} {a b : List Nat} (h : x ∈ b) : x ∈ a ++ b := List.mem_append_right a h
  have fl {e : Nat × List Nat} {l : List (Nat × List Nat)} {x : Nat} (he : e ∈ l) (hx : x ∈ e.2) :
      x ∈ (l.map (·.2)).flatten := List.mem_flatten.2 ⟨_, List.mem_map_of_mem he, hx⟩
  exact ⟨fun e he id hid => inl (inl (inl (inl (inl (inr (fl he hid)))))),
    fun e he id hid => inl (inl (inl (inl (inr (fl he hid))))),
    fun b hb => inl (inl (inl (inr (List.mem_map_of_mem hb)))),
    fun b hb => inl (inl (inr (List.mem_map_of_mem hb))),
    fun id hid => inl (inr hid),
    fun b hb => inr (List.mem_map_of_mem hb),
    fun e he => inr (List.mem_map_of_mem he)⟩

/-- C13 (neutral afterwards): on a disposed machine every mutation, check and
    AddErr is `Canceled` and changes nothing; every subscription answers with the
    shared closed channel. -/
theorem C13_neutral_after_dispose (orc : Oracle) (fuel : Nat) (m : Mach) (hd : m.disposed = true) :
    (∀ r, mutate orc fuel m r = (m, .canceled)) ∧
    (∀ k st, check orc fuel m k st = (m, .canceled)) ∧
    (addErr orc fuel m = (m, .canceled)) ∧
    (∀ r, doSub m r = (m, none)) := by
  refine ⟨fun r => by simp [mutate, hd], fun k st => by simp [check, hd], by simp [addErr, hd], ?_⟩
  intro r
  simp only [doSub, hd, if_true]
  cases r <;> rfl

end Am
