/-
  C09 — per-mutation clock updates over reconnects. Property theorems.
-/
import AmVerif.Model.RpcMuts
namespace Am.RpcMuts

/-- recorded ticks in order: each at or above the one before, less than 2^32 apart. -/
def Asc : Nat → List Nat → Prop
  | _, [] => True
  | prev, q :: r => prev ≤ q ∧ q - prev < W32 ∧ Asc q r

/-- the wrapped difference is the difference when that fits: `now + W - prev % W` is `now - prev`
    plus a multiple of `W`. -/
theorem delta32_exact (now prev : Nat) (h1 : prev ≤ now) (h2 : now - prev < W32) :
    delta32 now prev = now - prev := by
  have := Nat.div_add_mod prev W32
  have : now + W32 - prev % W32 = now - prev + W32 * (prev / W32 + 1) := by rw [Nat.mul_succ]; omega
  rw [delta32, this, Nat.add_mul_mod_self_left, Nat.mod_eq_of_lt h2]

theorem applyQueue_asc (m prev : Nat) (l : List Nat) (h : Asc prev l) :
    applyQueue m prev l + prev = m + lastD prev l := by
  induction l generalizing m prev with
  | nil => simp [applyQueue, lastD]
  | cons q r ih =>
    obtain ⟨h1, h2, h3⟩ := h
    simp only [applyQueue, lastD]
    rw [delta32_exact q prev h1 h2]
    have := ih (m + (q - prev)) q h3
    omega

theorem lastD_append (prev : Nat) (l : List Nat) (x : Nat) : lastD prev (l ++ [x]) = x := by
  induction l generalizing prev with
  | nil => rfl
  | cons q r ih => simpa [lastD] using ih q

theorem asc_append (prev : Nat) (l : List Nat) (x : Nat) (h : Asc prev l)
    (h1 : lastD prev l ≤ x) (h2 : x - lastD prev l < W32) : Asc prev (l ++ [x]) := by
  induction l generalizing prev with
  | nil => simpa [Asc, lastD] using ⟨h1, h2⟩
  | cons q r ih =>
    obtain ⟨a, b, c⟩ := h
    exact ⟨a, b, ih q c (by simpa [lastD] using h1) (by simpa [lastD] using h2)⟩

structure Inv (s : St) : Prop where
  mirror : s.mirror = s.lastPush
  asc : Asc s.lastPush s.queue
  src : s.src = lastD s.lastPush s.queue

def SmallTicks (l : List Step) : Prop := ∀ k, Step.tick k ∈ l → k + 1 < W32

theorem inv_step (s : St) (st : Step) (h : Inv s) (hk : ∀ k, st = .tick k → k + 1 < W32) :
    Inv (step true s st) := by
  obtain ⟨hm, ha, hs⟩ := h
  cases st with
  | tick k =>
    have hk' := hk k rfl
    refine ⟨hm, ?_, ?_⟩
    · apply asc_append _ _ _ ha <;> (rw [← hs]; omega)
    · simp only [step]; rw [lastD_append]
  | push =>
    refine ⟨?_, trivial, hs⟩
    have := applyQueue_asc s.mirror s.lastPush s.queue ha
    show applyQueue s.mirror s.lastPush s.queue = lastD s.lastPush s.queue
    omega
  | hello => exact ⟨rfl, trivial, rfl⟩

theorem inv_run (s : St) (l : List Step) (h : Inv s) (hk : SmallTicks l) : Inv (run true s l) :=
  List.foldlRecOn l _ h fun s hs st hst => inv_step s st hs fun k e => hk k (e ▸ hst)

/-- **C09 (per-mutation sync, reconnects included)**: whatever the sequence of
    source mutations, pushes and handshakes (first connection and reconnects, with
    any number of mutations made while the client was away), with fewer than 2^32
    ticks per mutation: once everything recorded has been pushed the mirror's
    tick is the source's, and after every push or handshake the mirror holds the
    tick the server last told it (fix e5973a3: a handshake drops what was recorded
    for the old connection). -/
theorem C09_muts_mirror_converges (l : List Step) (hk : SmallTicks l) :
    (run true {} l).mirror = (run true {} l).lastPush ∧
    ((run true {} l).queue = [] → (run true {} l).mirror = (run true {} l).src) := by
  have h := inv_run {} l ⟨rfl, trivial, rfl⟩ hk
  refine ⟨h.mirror, fun hq => ?_⟩
  rw [h.mirror, h.src, hq]; rfl

/-- **the pinned server did not have the property**: two mutations while the
    client is away, a reconnect, a push — the first recorded tick is below the
    handshake's, its delta wraps as a uint32 and the mirror's uint64 tick ends
    2^32 too high (the value seen on the real pair: 4294967301 for 5). -/
theorem C09_muts_stale_queue_false :
    ∃ l, SmallTicks l ∧ (run false {} l).queue = [] ∧
      (run false {} l).src = 5 ∧ (run false {} l).mirror = 4294967301 := by
  refine ⟨[.hello, .tick 3, .tick 0, .hello, .push], ?_, by decide, by decide, by decide⟩
  intro k hk
  simp at hk
  rcases hk with rfl | rfl <;> decide

end Am.RpcMuts
