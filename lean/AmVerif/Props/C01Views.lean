/-
  C01 — "every view of the machine agrees with every other", the reader side: the
  views that report activity and ticks in one answer read both under a single hold
  of activeStatesMx, and the only writer changes both under one write hold.
  Obligations over the lock table regenerated from /repo (Generated/Locks.lean);
  with C12's `Lockset.C12_writer_excludes_all` a read hold lies wholly between two
  write holds, so the view is computed from one state of the model — for which
  `C01_parity_all_histories` and `C01_views_agree` hold.
-/
import AmVerif.Generated.Locks
namespace Am.C01V
open Am.Lockset

/-- the functions whose answer combines the active list and the clock. -/
def viewFuncs : List String :=
  ["Machine.String", "Machine.StringAll", "Machine.Inspect", "newTransition"]

def stateLock : String := "Machine.activeStatesMx"

/-- `f` reads `fld` in its own body, and every such access holds the state lock. -/
def readsGuarded (f fld : String) : Bool :=
  Gen.lockRows.any (fun r => r.func == f && r.field == fld) &&
  Gen.lockRows.all (fun r => !(r.func == f && r.field == fld) ||
    (!r.async && r.locks.any (fun l => l.1 == stateLock)))

/-- `f` takes the state lock at exactly one site (so both reads fall into one hold). -/
def oneHold (f : String) : Bool :=
  Gen.lockAcqs.any (fun a => a.1 == f && a.2.1 == stateLock && a.2.2 == 1)

def viewOK (f : String) : Bool :=
  oneHold f && readsGuarded f "Machine.activeStates" && readsGuarded f "Machine.clock"

/-- **C01 (a combined view is read from one state)**: every view function reads the
    active list and the clock under one hold of the state lock. -/
theorem C01_views_read_one_state : viewFuncs.all viewOK = true := by decide +kernel

/-- **C01 (the writer changes list and clock together)**: every write to the active
    list or the clock outside the constructor, Import (documented as unsafe on a live
    machine) and the test helper TestMockClock holds the state lock in write mode. -/
theorem C01_writer_one_hold :
    Gen.lockRows.all (fun r =>
      !(r.write && (r.field == "Machine.activeStates" || r.field == "Machine.clock")) ||
      r.func == "New" || r.func == "Machine.Import" || r.func == "TestMockClock" ||
      r.locks.any (fun l => l.1 == stateLock && l.2)) = true := by decide +kernel

/-- the table is not empty of views: non-vacuity. -/
example : viewOK "Machine.String" = true ∧ Gen.lockRows.length > 100 :=
  ⟨List.all_eq_true.1 C01_views_read_one_state _ (.head _), by decide +kernel⟩

end Am.C01V
