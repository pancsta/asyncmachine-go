/-
  C10 — the round trip for shallow clocks: parity of every synchronised state, queue and machine
  ticks, and acceptance by the (activity-count) checksum.
-/
import AmVerif.Props.C10
namespace Am.Rpc
open Am

theorem eraseDups_of_nodup {l : List Nat} (h : l.Nodup) : l.eraseDups = l := by
  induction l with
  | nil => rfl
  | cons a as ih =>
    rw [List.nodup_cons] at h
    have hf : as.filter (fun b => !b == a) = as := by
      apply List.filter_eq_self.2
      intro b hb
      have : b ≠ a := fun e => h.1 (e ▸ hb)
      simpa using this
    rw [List.eraseDups_cons, hf, ih h.2]

/-- counting the odd entries of a duplicate-free index list = summing the parities. -/
theorem count_odd_eq_sum (t : List Nat) (P : List Nat) (hnd : P.Nodup) (hlt : ∀ p ∈ P, p < t.length) :
    ((P.filter (fun i => decide (i < t.length) && t.getD i 0 % 2 == 1)).eraseDups).length =
      (P.map (fun p => t.getD p 0 % 2)).sum := by
  rw [eraseDups_of_nodup (hnd.sublist List.filter_sublist)]
  clear hnd
  induction P with
  | nil => rfl
  | cons a r ih =>
    have ihr := ih (fun p hp => hlt p (List.mem_cons_of_mem _ hp))
    simp only [List.filter_cons, List.map_cons, List.sum_cons, hlt a (by simp), decide_true, Bool.true_and]
    rcases Nat.mod_two_eq_zero_or_one (t.getD a 0) with h | h <;> rw [h]
    · rw [if_neg (by decide), ihr, Nat.zero_add]
    · rw [if_pos (by decide), List.length_cons, ihr, Nat.add_comm]

/-- the shallow checksum counts the active (odd) states; on the pushed list that is the sum of the
    parities. -/
theorem clientChecksum_shallow {c : Cfg} (hs : c.shallow = true) (mi : Mirror) (hnd : (pushedList c).Nodup)
    (hlt : ∀ p ∈ pushedList c, p < mi.time.length) :
    clientChecksum c mi = checksum ((pushedList c).map (fun p => mi.time.getD p 0 % 2)).sum mi.q mi.m := by
  simp only [clientChecksum, hs, if_true]
  rw [show clientTracked c = pushedList c from rfl, count_odd_eq_sum _ _ hnd hlt]

theorem getD_map_mod2 (l : List Nat) (i : Nat) : (l.map (· % 2)).getD i 0 = l.getD i 0 % 2 := by
  simp only [List.getD_eq_getElem?_getD, List.getElem?_map]
  cases l[i]? <;> simp

/-- the sum the server puts in the shallow checksum is the number of odd ticks over the pushed indexes. -/
theorem shallowSum_eq (c : Cfg) (hs : c.shallow = true) (s : Snap) :
    (mkData c s).sum = ((pushedList c).map (fun p => (dataOf c s).getD p 0 % 2)).sum := by
  rw [mkData_sum, mkData_mTime, hs]
  exact congrArg List.sum (List.map_congr_left (fun p _ => getD_map_mod2 _ p))

/-- the client's mirror agrees with snapshot `s` in parity on every synchronised state. -/
structure HoldsParity (c : Cfg) (mi : Mirror) (s : Snap) : Prop where
  len : mi.time.length = (dataOf c s).length
  agree : ∀ p ∈ pushedList c, mi.time.getD p 0 % 2 = (dataOf c s).getD p 0 % 2
  q : mi.q = s.q
  m : mi.m = s.m

/-- C10 (shallow round trip): with shallow clocks the update derived from two successive
    snapshots, applied to a mirror that agrees with the first in the parity of every synchronised
    state (whatever ticks it holds - after the handshake they are the deep ones), is accepted by the
    activity-count checksum and leaves the mirror agreeing with the second in parity, with the
    right queue and machine ticks. `last` is whatever the server memorised for the first snapshot
    (the hello export with deep ticks, or the previous 0/1 tracer data). -/
theorem C10_roundtrip_shallow (c : Cfg) (n : Nat) (wf : WF c n) (hs : c.shallow = true)
    (prev now : Snap) (hp : prev.time.length = n) (hn : now.time.length = n)
    (hq : prev.q ≤ now.q ∧ now.q - prev.q < 65536)
    (hm : prev.m ≤ now.m ∧ now.m - prev.m < 256 ∧ now.m < 4294967296)
    (last : TData) (hl1 : last.mTime.length = (dataOf c prev).length)
    (hl2 : ∀ p ∈ pushedList c, last.mTime.getD p 0 % 2 = (dataOf c prev).getD p 0 % 2)
    (hl3 : last.q = prev.q ∧ last.m = prev.m)
    (mi : Mirror) (hh : HoldsParity c mi prev) :
    ∃ mi', clientApply c (calcUpdate c true (mkData c now) last) mi = some mi' ∧
      HoldsParity c mi' now := by
  have hP := pushed_lt wf prev hp
  obtain ⟨t, hap, hlen, hpt, -⟩ := apply_calcUpdate c true _ (mkData c now) last mi
    (genShallow_eq c _ _ (fun p hpp => ⟨(hP p hpp).2, hl1 ▸ (hP p hpp).1⟩))
    (pushed_nodup wf) (fun p hpp => hh.len ▸ (hP p hpp).1)
    (by rw [mkData_q, hl3.1]; exact ⟨hh.q, hq⟩) (by rw [mkData_m, hl3.2]; exact ⟨hh.m, hm⟩)
  have hlen' : t.length = (dataOf c now).length := by
    rw [hlen, hh.len, dataOf_length, dataOf_length, hp, hn]
  have hpoint : ∀ p ∈ pushedList c, t.getD p 0 % 2 = (dataOf c now).getD p 0 % 2 := by
    intro p hpp
    rw [hpt p hpp, add_flip_mod2 ((hh.agree p hpp).trans (hl2 p hpp).symm), mkData_mTime, hs,
      if_pos rfl, getD_map_mod2, Nat.mod_mod]
  refine ⟨_, (clientApply_eq c _ mi).trans (if_pos ?_), ?_⟩
  · rw [hap, clientChecksum_shallow hs _ (pushed_nodup wf) (fun p hpp => hlen' ▸ (pushed_lt wf now hn p hpp).1)]
    show _ = (mkData c now).checksum
    rw [mkData_checksum, shallowSum_eq c hs, mkData_q, mkData_m]
    exact congrArg (checksum · now.q now.m) (congrArg List.sum (List.map_congr_left hpoint))
  · rw [hap]
    exact ⟨hlen', hpoint, mkData_q c now, mkData_m c now⟩

/-- non-vacuity: after a handshake with deep ticks (A = 3, B = 2) the first shallow diff is exact. -/
example :
    let c : Cfg := { syncSchema := true, shallow := true, tracked := [0, 1, 2] }
    let prev : Snap := { time := [3, 2, 0], q := 5, m := 0 }
    let now : Snap := { time := [3, 2, 1], q := 6, m := 0 }
    (clientApply c (calcUpdate c true (mkData c now) (helloData c prev)) (helloMirror c prev)).map (·.time) =
      some [3, 2, 1] := by decide

end Am.Rpc
