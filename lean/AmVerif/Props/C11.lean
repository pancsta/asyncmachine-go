/- C11 — determinism. Property theorems only. -/
import AmVerif.Props.Common
namespace Am

/-- C11: the whole run is a function of (schema, name order used at New,
    handler behaviour, history) — the model takes no other input: in particular
    no map-iteration-order oracle (after the two `fix:` commits that made
    `NewAutoMutation` and `TopologicalSort` follow the state-name index). -/
theorem C11_run_is_function (sch : Schema) (alpha : S) (orc : Oracle) (fuel : Nat) (ops : List Op)
    (m1 m2 : Mach) (h1 : m1 = runOps orc fuel (Mach.init sch alpha) ops)
    (h2 : m2 = runOps orc fuel (Mach.init sch alpha) ops) : m1.active = m2.active ∧
    m1.clock = m2.clock ∧ m1.log = m2.log := by
  subst h1 h2; exact ⟨rfl, rfl, rfl⟩

/-- C11 (auto states are called in state-index order, whatever order the schema
    literal was written in). -/
theorem C11_auto_called_sorted (m : Mach) (am : Mut) (h : newAutoMutation m = some am) :
    am.called.Pairwise (· < ·) := by
  rw [(newAutoMutation_eq_some h).2.2]
  exact List.Pairwise.filter _ List.pairwise_lt_range

end Am
