/- C07 — auto states. Property theorems only. -/
import AmVerif.Lemmas.Machine
namespace Am

/-- C07 (which states the auto mutation calls): exactly the Auto states that are
    inactive and not Removed by an active state. -/
theorem C07_auto_called_set (m : Mach) (am : Mut) (h : newAutoMutation m = some am) (x : Nat) :
    x ∈ am.called ↔ (x < m.sch.n ∧ (m.sch.get x).auto = true ∧ x ∉ m.active ∧
      ∀ a ∈ m.active, x ∉ (m.sch.get a).remove) := by
  rw [(newAutoMutation_eq_some h).2.2]
  simp only [List.mem_filter, Schema.idx, List.mem_range, isAutoState, Bool.and_eq_true,
    Bool.not_eq_true', Bool.eq_false_iff, ne_eq, Mach.is_singleton, List.any_eq_true,
    List.contains_iff_mem, not_exists, not_and]
  exact ⟨fun ⟨hx, ⟨ha, hn⟩, hr⟩ => ⟨hx, ha, hn hx, hr⟩, fun ⟨hx, ha, hn, hr⟩ => ⟨hx, ⟨ha, fun _ => hn⟩, hr⟩⟩

/-- C07 (the auto mutation is an Add, flagged auto, never empty). -/
theorem C07_auto_shape (m : Mach) (am : Mut) (h : newAutoMutation m = some am) :
    am.kind = .add ∧ am.isAuto = true ∧ am.isCheck = false ∧ am.called ≠ [] := by
  obtain ⟨hne, e, -⟩ := newAutoMutation_eq_some h
  rw [e]
  exact ⟨rfl, rfl, rfl, hne⟩

/-- C07 (no chains, nothing after a no-op, nothing after a health mutation): an
    auto transition, an unchanged clock or a Healthcheck/Heartbeat mutation never
    queue an auto mutation. -/
theorem C07_no_auto_after (m : Mach) (t : Tx) (changed : Bool)
    (h : t.mu.isAuto = true ∨ changed = false ∨ isHealth m t.mu = true) :
    autoStage m t changed = m := by
  unfold autoStage
  rcases h with h | h | h <;> simp [h]

/-- C07 (otherwise it is the very next transition): after an accepted, changed,
    non-auto, non-health transition the auto mutation is *prepended*, so it is
    the head of the queue. -/
theorem C07_auto_is_next (m : Mach) (t : Tx) (am : Mut)
    (h1 : t.mu.isAuto = false) (h2 : isHealth m t.mu = false)
    (h3 : newAutoMutation m = some am) :
    (autoStage m t true).queue = am :: m.queue := by
  unfold autoStage
  simp [h1, h2, h3, prepend, Mach.emit]

end Am
