/-
  C14 — tracers see every transition once, in order, never interleaved: the shape of the callback
  stream over whole histories. The model's log records the tracer callbacks `TransitionInit`,
  `TransitionStart`, `TransitionFinals`, `TransitionEnd` among the other events; projected on those
  four, the log of every history is a word of (Init Start [Finals] End)*, for every schema, handler
  oracle (nested mutations, vetoes, panics, timeouts, detaching) and operation list - unless the
  model's caller goroutine crashed (a Go panic escaping `emitEvents`, which the pinned code can
  still do in one auto-transition corner).

  The callback grammar is C05's acceptor with the handler ranks forgotten (`Ph2.toPh`), so every
  statement here is the image of its C05 counterpart.
-/
import AmVerif.Props.C05Order
namespace Am

/-- where a tracer is within a transition. -/
inductive Ph | idle | inited | started | finals
deriving DecidableEq, Repr

def Ph.step : Ph → Ev → Option Ph
  | .idle, .tInit _ _ _ _ _ _ => some .inited
  | .inited, .tStart _ => some .started
  | .started, .tFinals _ _ => some .finals
  | .started, .tEnd _ _ _ _ _ => some .idle
  | .finals, .tEnd _ _ _ _ _ => some .idle
  | p, e => if e.isTx then none else some p

def runPh : Ph → List Ev → Option Ph
  | p, [] => some p
  | p, e :: r => match p.step e with
    | some q => runPh q r
    | none => none

theorem runPh_append (p : Ph) (a b : List Ev) :
    runPh p (a ++ b) = (runPh p a).bind (fun q => runPh q b) := by
  induction a generalizing p with
  | nil => simp [runPh]
  | cons e r ih =>
    simp only [List.cons_append, runPh]
    cases p.step e with
    | none => rfl
    | some q => exact ih q

/-- forget the handler ranks. -/
def Ph2.toPh : Ph2 → Ph
  | .idle => .idle
  | .inited => .inited
  | .neg _ => .started
  | .fin _ => .finals

theorem Ph2.step_toPh {p q : Ph2} {e : Ev} (h : p.step e = some q) : p.toPh.step e = some q.toPh := by
  -- 10 events × 4 states: `cases h` evaluates `Ph2.step` to `some _ = some q` (and `Ph.step`
  -- computes the image) or to `none = some q`; what is left is the rank test of a handler call
  cases e <;> cases p <;>
    first | (cases h; rfl) | cases h | (simp only [Ph2.step] at h; split at h <;> cases h; rfl)

theorem runPh_of_run2 {l : List Ev} : ∀ {p q : Ph2}, run2 p l = some q → runPh p.toPh l = some q.toPh := by
  induction l with
  | nil => intro p q h; cases h; rfl
  | cons e r ih =>
    intro p q h
    simp only [run2] at h
    split at h
    · rename_i p' hs; simp only [runPh, Ph2.step_toPh hs]; exact ih h
    · cases h

/-! The two lemmas the C14 check audits by name (props.json), as images of their C05 counterparts. -/

/-- the log grew by a word that takes a tracer from phase `p` to phase `q`. -/
def LX (p q : Ph) (m m' : Mach) : Prop := ∃ ext, m'.log = m.log ++ ext ∧ runPh p ext = some q

theorem LX2.toLX {p q : Ph2} {m m' : Mach} (h : LX2 p q m m') : LX p.toPh q.toPh m m' := by
  obtain ⟨ext, hl, hr⟩ := h
  exact ⟨ext, hl, runPh_of_run2 hr⟩

/-- `emitEvents`: `TransitionStart`, the negotiation, then either the applied branch (Finals, End)
    or End alone - unless the caller goroutine crashed on the way. -/
theorem lx_emitEvents (orc : Oracle) (m0 : Mach) (t0 : Tx) :
    (emitEvents orc m0 t0).1.crashed = true ∨ LX .inited .idle m0 (emitEvents orc m0 t0).1 :=
  (lx2_emitEvents orc m0 t0).imp id LX2.toLX

/-- what every operation keeps: a crashed caller, or a closed callback stream. -/
def Shape (m : Mach) : Prop := m.crashed = true ∨ runPh .idle m.log = some .idle

theorem shape_runOne (orc : Oracle) (m : Mach) (mu : Mut) (rest : List Mut)
    (h : runPh .idle m.log = some .idle) : Shape (runOne orc m mu rest).1 :=
  (lx2_runOne orc m mu rest).imp id fun x => by
    obtain ⟨ext, hl, hr⟩ := x.toLX
    rw [hl, runPh_append, h]; exact hr

/-- **C14 (every transition once, in order, never interleaved — all histories)**: for every
    schema, every handler oracle and every finite history of operations, the stream of
    `TransitionInit` / `TransitionStart` / `TransitionFinals` / `TransitionEnd` callbacks is a
    sequence of complete, non-overlapping transitions Init, Start, [Finals], End — unless the
    caller goroutine crashed. -/
theorem C14_callbacks_well_formed (sch : Schema) (alpha : S) (orc : Oracle) (fuel : Nat) (ops : List Op) :
    Shape (runOps orc fuel (Mach.init sch alpha) ops) :=
  (C05_handler_sequence_all_histories sch alpha orc fuel ops).imp id runPh_of_run2

/-- non-vacuity: an accepted and a canceled transition, with handler noise between the callbacks. -/
example : runPh .idle [.tInit default [] [] [] [] true, .mq default, .tStart true, .h 0 (.enter 1) [],
    .tFinals [] [], .h 0 (.state 1) [], .tEnd [] [] true [] 0, .qEnd,
    .tInit default [] [] [] [] false, .tStart false, .tEnd [] [] false [] 0] = some .idle := by decide

/-- ... and an interleaved stream is rejected. -/
example : runPh .idle [.tInit default [] [] [] [] true, .tInit default [] [] [] [] true] = none := by decide

end Am
