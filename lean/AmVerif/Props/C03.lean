/-
  C03 — transitions are all-or-nothing. Property theorems only.
-/
import AmVerif.Lemmas.Chain
namespace Am

/-- C03 (canceled in negotiation ⇒ nothing moved): if the negotiation phase of a
    transition ends with `Canceled` — relations rejected a called state, any
    Enter/Exit/self/state-state/AnyEnter handler returned false, or one of them
    panicked or timed out — the machine's active states and every tick are
    exactly what they were, for every schema, mutation and handler oracle. -/
theorem C03_negotiation_cancel_noop (orc : Oracle) (m0 : Mach) (t0 : Tx)
    (h : (negotiate orc (m0.emit (.tStart t0.accepted)) t0 t0.accepted).2.2 = false) :
    (emitEvents orc m0 t0).1.active = m0.active ∧ (emitEvents orc m0 t0).1.clock = m0.clock := by
  rcases emitEvents_quiet orc m0 t0 with q | ⟨_, hr, _⟩
  · exact ⟨q.active, q.clock⟩
  · rw [h] at hr; cases hr

/-- C03 (a transition not accepted by the resolver is canceled before any
    handler runs and changes nothing). -/
theorem C03_rejected_noop (orc : Oracle) (m0 : Mach) (t0 : Tx) (h : t0.accepted = false) :
    (emitEvents orc m0 t0).1.active = m0.active ∧ (emitEvents orc m0 t0).1.clock = m0.clock := by
  apply C03_negotiation_cancel_noop
  rw [h]
  simp only [negotiate]
  split
  · rfl
  · exact negStep_false _ _ (negStep_false _ _ (negStep_false _ _ (negStep_false _ _
      (negStep_false _ _ rfl))))

/-- C03 (check purity, transition level): a CanAdd/CanRemove transition never
    changes the active states or any tick, whatever the handlers do. -/
theorem C03_check_pure (orc : Oracle) (m0 : Mach) (t0 : Tx) (h : t0.mu.isCheck = true) :
    (emitEvents orc m0 t0).1.active = m0.active ∧ (emitEvents orc m0 t0).1.clock = m0.clock := by
  rcases emitEvents_quiet orc m0 t0 with q | ⟨hc, _⟩
  · exact ⟨q.active, q.clock⟩
  · rw [(negotiate_keeps orc _ t0 t0.accepted).mu, h] at hc; cases hc

/-- C03 (single application): in one transition the active states and the clock
    are written together, once, by `setActiveStates` on the resolver's target
    (an `apply` step) — or, after a handler fault only, by the recovery.
    This is the structural theorem instantiated to one transition. -/
theorem C03_single_apply {F : Prop} (orc : Oracle) (hF : OrcF F orc) (m : Mach) (mu : Mut)
    (rest : List Mut) : Chg F m (runOne orc m mu rest).1 :=
  chg_runOne orc hF m mu rest

end Am
