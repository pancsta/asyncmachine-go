/- C14 — tracers see the true times. -/
import AmVerif.Props.Common
namespace Am

/-- no atomic update below the transition level touches the predicted `TimeAfter`. -/
theorem Path.timeAfter {G : Prop} {E : Ev → Prop} {m m' : Mach} {t t' : Tx} (h : Path G E m t m' t') :
    t'.timeAfter = t.timeAfter := by
  induction h with
  | trans _ _ ih1 ih2 => exact ih2.trans ih1
  | _ => rfl

/-- C14 (fault-free, accepted branch): the `TimeAfter` that `TransitionEnd`
    tracers read equals the machine's clock when the transition finished. -/
theorem C14_applied_time_after_true (orc : Oracle) (hff : FaultFree orc) (m1 : Mach) (t2 : Tx) :
    (applyPhase orc m1 t2).2.1.timeAfter = (applyPhase orc m1 t2).1.clock := by
  -- no path without recovery moves the clock or `timeAfter`, which `applyTarget` has just set to the clock
  obtain ⟨m4, t4, m6, t6, b, p4, p6, e⟩ := applyPhase_path orc hff m1 t2
  rw [e, finish_snd, finish_fst]
  exact (p6.timeAfter.trans p4.timeAfter).trans (p6.keeps.chg.clock.trans p4.keeps.chg.clock).symm

/-- C14 (chain): a transition's `TimeBefore` is the machine's clock at its
    creation, i.e. the previous transition's true `TimeAfter`. -/
theorem C14_time_before_is_clock (m : Mach) (mu : Mut) :
    (newTx m mu).2.timeBefore = m.clock := by
  have h : ∀ t, (setupAccepted m t).timeBefore = t.timeBefore := fun t => by
    obtain ⟨a, e⟩ := setupAccepted_eq m t; rw [e]
  simp only [newTx]
  split <;> simp only [setupExitEnter, h]

/-- C14 (canceled ones report no change): a transition canceled in negotiation
    reports `TimeAfter` = the clock, which did not move. -/
theorem C14_canceled_reports_no_change (orc : Oracle) (m0 : Mach) (t0 : Tx)
    (hc : t0.mu.isCheck = false)
    (h : (negotiate orc (m0.emit (.tStart t0.accepted)) t0 t0.accepted).2.2 = false)
    (hcr : (negotiate orc (m0.emit (.tStart t0.accepted)) t0 t0.accepted).1.crashed = false) :
    (emitEvents orc m0 t0).2.1.timeAfter = m0.clock ∧ (emitEvents orc m0 t0).1.clock = m0.clock := by
  have k := negotiate_keeps orc (m0.emit (.tStart t0.accepted)) t0 t0.accepted
  have hmu := k.mu ▸ hc
  simp only [emitEvents, hcr, Bool.false_eq_true, if_false, hmu, h]
  rw [finish_snd, finish_fst]
  exact ⟨(quiet_negotiation orc m0 t0).clock, (quiet_negotiation orc m0 t0).clock⟩

end Am
