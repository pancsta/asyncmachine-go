import AmVerif.Model.ListSet
import AmVerif.Model.Schema
import AmVerif.Model.Resolver
import AmVerif.Model.Machine
import AmVerif.Model.Driver
import AmVerif.Model.SchemaParse
import AmVerif.Model.Time
import AmVerif.Lemmas.ListSet
import AmVerif.Lemmas.Machine
import AmVerif.Lemmas.Resolver
import AmVerif.Lemmas.Clock
import AmVerif.Lemmas.Path
import AmVerif.Lemmas.Chain
import AmVerif.Lemmas.Sched
import AmVerif.Lemmas.SchemaCheck
import AmVerif.Props.Common
import AmVerif.Props.C01
import AmVerif.Props.C01Views
import AmVerif.Props.C02
import AmVerif.Props.C03
import AmVerif.Props.C04
import AmVerif.Props.C04Lift
import AmVerif.Props.C05
import AmVerif.Props.C05Order
import AmVerif.Props.C06
import AmVerif.Props.C07
import AmVerif.Props.C08
import AmVerif.Props.C09
import AmVerif.Props.C09Muts
import AmVerif.Props.C10
import AmVerif.Props.C10Shallow
import AmVerif.Props.C11
import AmVerif.Props.C12
import AmVerif.Props.C12Net
import AmVerif.Props.C13Proto
import AmVerif.Props.C14
import AmVerif.Props.C14Shape
import AmVerif.Props.C15
import AmVerif.Props.C16
import AmVerif.Props.C17
import AmVerif.Props.C18
import AmVerif.Props.C19
import AmVerif.Props.C20
import AmVerif.Generated.SchemaChecks
import AmVerif.Generated.Api
